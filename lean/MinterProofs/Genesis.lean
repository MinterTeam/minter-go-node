import MinterModel.Genesis
import MinterProofs.Ledger
/-
  Lemmas for C11 (MinterProofs/Props/C11.lean).  `verifyState` (`AppState.Verify()` of coreV2/types/appstate.go) reports the
  first failing entry of a list of named checks; acceptance is restated as `Pass`, and through it as plain facts about
  the state (`verifyState_ok_iff_facts`), the form in which Props/C11.lean uses it.
-/
namespace Minter
namespace Genesis

/-! ### Lists of checks -/

/-- A conjunction that unfolds with the list, so that `obtain` takes a literal list of checks apart without a rewrite per
    entry. -/
def Pass : List Check → Prop
  | [] => True
  | c :: t => c.2 = true ∧ Pass t

theorem pass_iff (l : List Check) : Pass l ↔ ∀ c ∈ l, c.2 = true := by
  induction l with
  | nil => simp [Pass]
  | cons c t ih => rw [Pass, ih, List.forall_mem_cons]

theorem pass_append (l m : List Check) : Pass (l ++ m) ↔ Pass l ∧ Pass m := by
  simp only [pass_iff, List.forall_mem_append]

theorem pass_flatMap {α : Type} (f : α → List Check) (l : List α) : Pass (l.flatMap f) ↔ ∀ x ∈ l, Pass (f x) := by
  simp only [pass_iff, List.mem_flatMap]
  exact ⟨fun h x hx c hc => h c ⟨x, hx, hc⟩, fun h c ⟨x, hx, hc⟩ => h x hx c hc⟩

theorem firstFail_none_iff (l : List Check) : firstFail l = none ↔ Pass l := by
  induction l with
  | nil => simp [firstFail, Pass]
  | cons c t ih =>
    obtain ⟨n, ok⟩ := c
    cases ok <;> simp [firstFail, Pass, ih]

theorem firstFail_some (l : List Check) (n : String) (h : firstFail l = some n) : ∃ c ∈ l, c.1 = n ∧ c.2 = false := by
  induction l with
  | nil => cases h
  | cons c t ih =>
    obtain ⟨m, ok⟩ := c
    cases ok
    · exact ⟨_, List.mem_cons_self, Option.some.inj h, rfl⟩
    · obtain ⟨c, hc, h'⟩ := ih h
      exact ⟨c, List.mem_cons_of_mem _ hc, h'⟩

theorem verifyState_ok_pass (base : String) (s : State) : verifyState base s = .ok () ↔ Pass (allChecks base s) := by
  rw [← firstFail_none_iff, verifyState]
  cases firstFail (allChecks base s) <;> simp

theorem verifyState_ok_iff (base : String) (s : State) :
    verifyState base s = .ok () ↔ ∀ c ∈ allChecks base s, c.2 = true := by
  rw [verifyState_ok_pass, pass_iff]

theorem verifyState_error (base : String) (s : State) (n : String) (h : verifyState base s = .error n) :
    ∃ c ∈ allChecks base s, c.1 = n ∧ c.2 = false := by
  unfold verifyState at h
  split at h
  · cases h
  · next m hm =>
    cases h
    exact firstFail_some _ _ hm

theorem wellFormed_ok_pass (s : State) : wellFormed s = .ok () ↔ Pass (exportInvariants s) := by
  rw [← firstFail_none_iff, wellFormed]
  cases firstFail (exportInvariants s) <;> simp

/-! ### The duplicate checks -/

/-- The four duplicate checks of `Verify()` (validators, accounts, stakes, coins) have one shape: walk the list, reject a key
    seen before, make the other checks `P` of the element. -/
theorem seenChecks_pass {α κ : Type} [BEq κ] [LawfulBEq κ] {f : List κ → List α → List Check} {key : α → κ} {P : α → Prop}
    (hnil : ∀ seen, Pass (f seen []))
    (hcons : ∀ seen x t, Pass (f seen (x :: t)) ↔ (!seen.contains (key x)) = true ∧ P x ∧ Pass (f (key x :: seen) t))
    (seen : List κ) (l : List α) :
    Pass (f seen l) ↔ (∀ x ∈ l, key x ∉ seen) ∧ (l.map key).Nodup ∧ ∀ x ∈ l, P x := by
  induction l generalizing seen with
  | nil => simp [hnil]
  | cons x t ih =>
    rw [hcons, ih, List.forall_mem_cons, List.forall_mem_cons, List.map_cons, List.nodup_cons]
    simp only [Bool.not_eq_eq_eq_not, Bool.not_true, List.contains_eq_mem, decide_eq_false_iff_not, List.mem_cons, not_or,
      List.mem_map, not_exists, not_and, forall_and]
    constructor
    · rintro ⟨h1, h2, ⟨h3, h4⟩, h5, h6⟩
      exact ⟨⟨h1, h4⟩, ⟨h3, h5⟩, h2, h6⟩
    · rintro ⟨⟨h1, h4⟩, ⟨h3, h5⟩, h2, h6⟩
      exact ⟨h1, h2, ⟨h3, h4⟩, h5, h6⟩

theorem valChecks_pass (s : State) (seen : List PubKey) (vs : List Validator) :
    Pass (valChecks s seen vs) ↔ (∀ v ∈ vs, v.pubkey ∉ seen) ∧ (vs.map (·.pubkey)).Nodup ∧
      ∀ v ∈ vs, s.candidates.any (fun c => c.pubkey == v.pubkey) = true ∧ 0 ≤ v.totalBip ∧ 0 ≤ v.accum :=
  seenChecks_pass (fun _ => by trivial) (fun _ _ _ => by simp only [valChecks, Pass, and_assoc, decide_eq_true_eq]) seen vs

theorem accountChecks_pass (seen : List Addr) (l : List (Addr × Nat)) :
    Pass (accountChecks seen l) ↔ (∀ a ∈ l, a.1 ∉ seen) ∧ (l.map (·.1)).Nodup :=
  (seenChecks_pass (key := (·.1)) (P := fun _ => True) (fun _ => by trivial)
    (fun _ _ _ => by simp only [accountChecks, Pass, true_and]) seen l).trans (by simp only [implies_true, and_true])

theorem stakeChecks_pass (s : State) (seen : List (Addr × Coin)) (l : List Stake) :
    Pass (stakeChecks s seen l) ↔ (∀ st ∈ l, (st.owner, st.coin) ∉ seen) ∧ (l.map (fun st => (st.owner, st.coin))).Nodup ∧
      ∀ st ∈ l, coinExists s st.coin = true :=
  seenChecks_pass (fun _ => by trivial) (fun _ _ _ => by simp only [stakeChecks, Pass]) seen l

theorem coinChecks_pass (base : String) (s : State) (seen : List Coin) (l : List CoinInfo) :
    Pass (coinChecks base s seen l) ↔ (∀ ci ∈ l, ci.id ∉ seen) ∧ (l.map (·.id)).Nodup ∧
      ∀ ci ∈ l, ci.symbol ≠ base ∧ goVolume s ci = ci.volume :=
  seenChecks_pass (fun _ => by trivial)
    (fun _ _ _ => by simp only [coinChecks, Pass, and_assoc, and_left_comm, decide_eq_true_eq, bne_iff_ne]) seen l

/-- Check group by check group, in the order of `allChecks`. -/
theorem verifyState_ok_iff_facts (base : String) (s : State) : verifyState base s = .ok () ↔
    (0 ≤ s.slashed ∧ s.validators ≠ []) ∧
    ((s.validators.map (·.pubkey)).Nodup ∧
      ∀ v ∈ s.validators, s.candidates.any (fun c => c.pubkey == v.pubkey) = true ∧ 0 ≤ v.totalBip ∧ 0 ≤ v.accum) ∧
    (s.nonces.map (·.1)).Nodup ∧
    (∀ b ∈ s.balances, 0 ≤ b.2 ∧ coinExists s b.1.2 = true) ∧
    (∀ cd ∈ s.candidates, (cd.stakes.map (fun st => (st.owner, st.coin))).Nodup ∧ ∀ st ∈ cd.stakes, coinExists s st.coin = true) ∧
    ((s.coins.map (·.id)).Nodup ∧ ∀ ci ∈ s.coins, ci.symbol ≠ base ∧ goVolume s ci = ci.volume) ∧
    (∀ w ∈ s.waitlist, 0 ≤ w.value ∧ coinExists s w.coin = true) ∧
    (∀ f ∈ s.frozen, 0 ≤ f.value ∧ coinExists s f.coin = true) ∧
    (∀ h ∈ s.usedChecks, hexDecodes h = true ∧ h.toList.length = 64) := by
  rw [verifyState_ok_pass]
  simp only [allChecks, pass_append, pass_flatMap, valChecks_pass, accountChecks_pass, stakeChecks_pass, coinChecks_pass,
    balanceChecks, waitChecks, frozenChecks, usedCheckChecks, Pass, List.not_mem_nil, not_false_eq_true, implies_true, true_and,
    and_true, and_assoc, decide_eq_true_eq, Bool.not_eq_eq_eq_not, Bool.not_true, List.isEmpty_eq_false_iff, beq_iff_eq, ne_eq]

/-! ### Volumes -/

theorem volumeOf_unique (l : List CoinInfo) (ci : CoinInfo) (hm : ci ∈ l) (hn : (l.map (·.id)).Nodup) :
    sumBy (fun x => if x.id = ci.id then x.volume else 0) l = ci.volume := by
  induction l with
  | nil => cases hm
  | cons x t ih =>
    rw [List.map_cons, List.nodup_cons, List.mem_map] at hn
    rw [sumBy]
    rcases List.mem_cons.mp hm with rfl | e
    · rw [sumBy_eq_zero fun y hy => if_neg fun e => hn.1 ⟨y, hy, e⟩, if_pos rfl, Int.add_zero]
    · rw [ih e hn.2, if_neg fun e' => hn.1 ⟨ci, e, e'.symm⟩, Int.zero_add]

theorem unstaked_zero (s : State) (ci : CoinInfo) (hm : ci ∈ s.coins) (h0 : ci.crr = 0) (ht : tokensUnstaked s = true) :
    sumBy (candHoldings ci.id) s.candidates = 0 ∧ sumBy (fun w => if w.coin = ci.id then w.value else 0) s.waitlist = 0 := by
  have h := List.all_eq_true.mp ht ci hm
  simp only [h0, bne_self_eq_false, Bool.false_or, Bool.and_eq_true, List.all_eq_true, bne_iff_ne, ne_eq, stakeCoins,
    List.mem_append, List.mem_map] at h
  constructor
  · refine sumBy_eq_zero fun cd hcd => ?_
    have hs := h.1 cd hcd
    rw [candHoldings, sumBy_eq_zero (f := stakeOf ci.id) (l := cd.stakes) fun st hst => if_neg (hs _ (.inl ⟨st, hst, rfl⟩)),
      sumBy_eq_zero (f := stakeOf ci.id) (l := cd.updates) fun st hst => if_neg (hs _ (.inr ⟨st, hst, rfl⟩))]
    rfl
  · exact sumBy_eq_zero fun w hw => if_neg (h.2 w hw)

/-- `Verify()` leaves stakes, updates and the waitlist out of a token's sum (crr = 0): that is the token's holdings only
    when nobody stakes it. -/
theorem goVolume_eq_holdings (s : State) (ci : CoinInfo) (hm : ci ∈ s.coins) (ht : tokensUnstaked s = true) :
    goVolume s ci = holdings s ci.id := by
  unfold goVolume holdings
  split
  · next h0 =>
    obtain ⟨h1, h2⟩ := unstaked_zero s ci hm h0 ht
    omega
  · omega

/-! ### Insertion sort -/

theorem insertSorted_perm {α : Type} (lt : α → α → Bool) (x : α) (l : List α) : (insertSorted lt x l).Perm (x :: l) := by
  induction l with
  | nil => exact .refl _
  | cons y t ih =>
    rw [insertSorted]
    split
    · exact .refl _
    · exact (ih.cons y).trans (.swap x y t)

theorem sortBy_perm {α : Type} (lt : α → α → Bool) (l : List α) : (sortBy lt l).Perm l := by
  suffices h : ∀ acc : List α, (l.foldl (fun acc x => insertSorted lt x acc) acc).Perm (l ++ acc) by
    simpa [sortBy] using h []
  induction l with
  | nil => exact fun acc => .refl _
  | cons x t ih => exact fun acc => (ih _).trans ((insertSorted_perm lt x acc).append_left t |>.trans List.perm_middle)

theorem sortBy_eq_nil {α : Type} (lt : α → α → Bool) (l : List α) : sortBy lt l = [] ↔ l = [] :=
  ⟨fun h => (h ▸ sortBy_perm lt l).symm.eq_nil, fun h => by rw [h]; rfl⟩

theorem insertSorted_last {α : Type} (lt : α → α → Bool) (x : α) (l : List α) (h : ∀ y ∈ l, lt x y = false) :
    insertSorted lt x l = l ++ [x] := by
  induction l with
  | nil => rfl
  | cons y t ih =>
    rw [List.forall_mem_cons] at h
    rw [insertSorted, h.1, ih h.2]
    rfl

theorem sortBy_sorted {α : Type} (lt : α → α → Bool) (l : List α) (h : l.Pairwise (fun a b => lt b a = false)) : sortBy lt l = l := by
  unfold sortBy
  suffices hs : ∀ acc : List α, (acc ++ l).Pairwise (fun a b => lt b a = false) →
      l.foldl (fun acc x => insertSorted lt x acc) acc = acc ++ l from hs [] h
  clear h
  induction l with
  | nil => exact fun acc _ => (List.append_nil acc).symm
  | cons x t ih =>
    intro acc hacc
    rw [List.foldl_cons, insertSorted_last lt x acc fun y hy => (List.pairwise_append.mp hacc).2.2 y hy x List.mem_cons_self,
      ih, List.append_assoc]
    · rfl
    · rw [List.append_assoc]; exact hacc

theorem nodupB_iff {α : Type} [BEq α] [LawfulBEq α] (l : List α) : nodupB l = true ↔ l.Nodup := by
  induction l with
  | nil => simp [nodupB]
  | cons x t ih => simp [nodupB, ih]

end Genesis
end Minter
