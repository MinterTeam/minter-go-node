import MinterModel.Moves
import MinterProofs.Ledger
/-
  Every move is balanced; hence every plan built from moves is.
-/
namespace Minter

theorem admin_effects (p : Prim) (h : p.isAdmin = true) (c : Coin) :
    p.dHold c = 0 ∧ p.dVol c = 0 ∧ p.dSide = 0 ∧ p.dEmission = 0 := by
  cases p with
  | setNonce | setCoinOwner | bumpVersion | note | useCheck | setLockStake | setMultisig | setCandStatus | setToDrop
  | editCandidate | setCandPubKey | setCandCommission | addHalt | addCVote | addUVote | setNextOrder => exact ⟨rfl, rfl, rfl, rfl⟩
  | _ => cases h

theorem balanced_nil' : Balanced [] := balanced_nil

/-- `v` of coin `k`, as it counts in the books of coin `c`. Every declared effect of a primitive is a sum of such terms;
    written this way they are atoms for `omega`, and a move balances because they cancel coin by coin. -/
def only (k : Coin) (v : Int) (c : Coin) : Int := if k = c then v else 0

theorem ite_eq_only (k c : Coin) (v : Int) : (if k = c then v else 0) = only k v c := rfl
theorem only_neg (k : Coin) (v : Int) (c : Coin) : only k (-v) c = - only k v c := ite_neg_zero v
theorem only_add (k : Coin) (v w : Int) (c : Coin) : only k (v + w) c = only k v c + only k w c := ite_add_zero v w
theorem only_sub (k : Coin) (v w : Int) (c : Coin) : only k (v - w) c = only k v c - only k w c := by
  rw [Int.sub_eq_add_neg, only_add, only_neg, ← Int.sub_eq_add_neg]
theorem only_self (c : Coin) (v : Int) : only c v c = v := if_pos rfl
theorem only_ne {k c : Coin} (h : k ≠ c) (v : Int) : only k v c = 0 := if_neg h

theorem orderEscrow_eq (c : Coin) (o : Order) : orderEscrow c o = only o.escrowCoin o.escrowValue c := by
  unfold orderEscrow Order.escrowCoin Order.escrowValue; split <;> rfl

/-- Writes the declared effects of an explicit plan as a sum of `only` terms, each of a plain amount, extra facts about coins
    (`only_ne h`) being passed along; what is left is linear. -/
macro "bal" "[" ts:Lean.Parser.Tactic.simpLemma,* "]" : tactic =>
  `(tactic| (simp only [sumHold, sumVol, sumSide, sumEmission, sumBy_cons, sumBy_nil, Prim.dHold, Prim.dVol, Prim.dSide,
      Prim.dEmission, poolHoldings, stakeOf, orderEscrow_eq, ite_eq_only, only_neg, only_add, only_sub, only_self, ↓reduceIte, $ts,*] <;> omega))

theorem Move.balanced (m : Move) : Balanced m.prims := by
  cases m with
  | transfer a b k v => exact ⟨fun c _ => by bal [Move.prims], by bal [Move.prims]⟩
  | mint a k v =>
    simp only [Move.prims]; split
    · exact balanced_nil
    · next h => exact ⟨fun c _ => by bal [], by bal [only_ne h]⟩
  | feeBase payer v => exact ⟨fun c hc => by bal [Move.prims, only_ne hc.symm], by bal [Move.prims]⟩
  | feeBancor payer k commission inBase =>
    simp only [Move.prims]; split
    · exact balanced_nil
    · next h => exact ⟨fun c _ => by bal [], by bal [only_ne h]⟩
  | poolSell payer c0 c1 sellsC0 net out burn toRewards dest =>
    cases sellsC0 <;> cases toRewards <;> simp only [Move.prims, Bool.false_eq_true, if_false, if_true]
    · exact ⟨fun c _ => by bal [], by bal []⟩
    · split
      · next h => exact ⟨fun c hc => by bal [h, only_ne hc.symm], by bal [h]⟩
      · exact balanced_nil
    · exact ⟨fun c _ => by bal [], by bal []⟩
    · split
      · next h => exact ⟨fun c hc => by bal [h, only_ne hc.symm], by bal [h]⟩
      · exact balanced_nil
  | createCoin owner ci =>
    simp only [Move.prims]; split
    · exact balanced_nil
    · next h => exact ⟨fun c hc => by bal [only_ne hc.symm], by bal [only_ne h]⟩
  | burnTicker v => exact ⟨fun c hc => by bal [Move.prims, only_ne hc.symm], by bal [Move.prims]⟩
  | admin p =>
    simp only [Move.prims]; split
    · next h =>
      have e := admin_effects p h
      exact ⟨fun c _ => by simp only [sumHold, sumVol, sumBy_cons, (e c).1, (e c).2.1]; rfl,
        by simp only [sumHold, sumSide, sumEmission, sumBy_cons, (e 0).1, (e 0).2.2.1, (e 0).2.2.2]; rfl⟩
    · exact balanced_nil
  | bancor a sell sellAmt buy buyAmt bip =>
    simp only [Move.prims]
    split <;> split
    · exact ⟨fun c hc => by bal [List.cons_append, List.nil_append, only_ne hc.symm], by bal [List.cons_append, List.nil_append]⟩
    · next h => exact ⟨fun c hc => by bal [List.cons_append, List.nil_append, only_ne hc.symm], by bal [List.cons_append, List.nil_append, only_ne h]⟩
    · next h _ => exact ⟨fun c hc => by bal [List.cons_append, List.nil_append, only_ne hc.symm], by bal [List.cons_append, List.nil_append, only_ne h]⟩
    · next h1 h2 => exact ⟨fun c _ => by bal [List.cons_append, List.nil_append], by bal [List.cons_append, List.nil_append, only_ne h1, only_ne h2]⟩
  | delegate a cand coin value wl =>
    cases wl <;> exact ⟨fun c _ => by bal [Move.prims], by bal [Move.prims]⟩
  | unbond a stakeCand coin value wl f =>
    cases wl with
    | none => exact ⟨fun c _ => by bal [Move.prims], by bal [Move.prims]⟩
    | some w =>
      simp only [Move.prims]
      split
      · exact ⟨fun c _ => by bal [], by bal []⟩
      · split
        · exact ⟨fun c _ => by bal [], by bal []⟩
        · next h1 h2 =>
          obtain rfl : value = w.value := by omega
          exact ⟨fun c _ => by bal [], by bal []⟩
  | lock a f => exact ⟨fun c _ => by bal [Move.prims], by bal [Move.prims]⟩
  | declare a cd coin stake => exact ⟨fun c _ => by bal [Move.prims], by bal [Move.prims]⟩
  | poolCreate a p lp =>
    simp only [Move.prims]; split
    · exact balanced_nil
    · next h =>
      have h1 : lp.id ≠ 0 := fun e => h (Or.inl e)
      have h2 : lp.reserve = 0 := Classical.byContradiction (fun e => h (Or.inr e))
      exact ⟨fun c _ => by bal [], by bal [only_ne h1, h2]⟩
  | poolMint a c0 c1 a0 a1 lp liq =>
    simp only [Move.prims]; split
    · exact balanced_nil
    · next h => exact ⟨fun c _ => by bal [], by bal [only_ne h]⟩
  | poolBurn a c0 c1 a0 a1 lp liq =>
    simp only [Move.prims]; split
    · exact balanced_nil
    · next h => exact ⟨fun c _ => by bal [], by bal [only_ne h]⟩
  | orderAdd a o => exact ⟨fun c _ => by bal [Move.prims], by bal [Move.prims]⟩
  | orderRemove a o => exact ⟨fun c _ => by bal [Move.prims], by bal [Move.prims]⟩

theorem planOf_balanced (ms : List Move) : Balanced (planOf ms) := by
  induction ms with
  | nil => exact balanced_nil
  | cons m t ih => exact balanced_append _ _ (Move.balanced m) ih

end Minter
