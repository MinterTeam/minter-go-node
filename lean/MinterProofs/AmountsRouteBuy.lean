import MinterProofs.AmountsRoute
/-
  C02: BuySwapPool (24).  The moves of a buy route are computed from the last pool backwards and executed in that order: the buyer
  pays for a hop with coins the *next* move will hand him.  In between, one balance may therefore be "in debt"; the invariant carried
  along the route is `AmountsOk` of the state with that debt credited back (`credit`), and the debt after the last move — the amount
  of the first coin of the route — is what the handler checked the sender's balance against.
-/
namespace Minter

variable {P : Params} {o : Oracle} {s : State} {t : TxIn} {price : Int} {rd : Ready}

/-- `σ` with `g` of coin `c` credited to `who`. -/
def credit (σ : State) (who : Addr) (c : Coin) (g : Int) : State := (Prim.addBal who c g).apply σ

theorem balanceOf_credit (σ : State) (who : Addr) (c : Coin) (g : Int) (x : Addr) (c' : Coin) :
    balanceOf (credit σ who c g) x c' = balanceOf σ x c' + (if who = x ∧ c = c' then g else 0) := by
  unfold credit; rw [apply_balance']; rfl

/-- `AmountsOk` only looks at balances through `balanceOf` and at the other components as they are. -/
theorem amountsOk_transfer (τ ρ : State) (hb : ∀ x c, balanceOf ρ x c = balanceOf τ x c) (hrest : { ρ with balances := τ.balances } = τ)
    (hok : AmountsOk τ) : AmountsOk ρ := by
  rw [← hrest] at hok
  exact { hok with balances := fun a c => hb a c ▸ hok.balances a c }

/-- A debt that the balance covers can be dropped. -/
theorem amountsOk_uncredit (σ : State) (who : Addr) (c : Coin) (g : Int) (hok : AmountsOk (credit σ who c g))
    (hg : g ≤ balanceOf (credit σ who c g) who c) : AmountsOk σ := by
  refine { hok with balances := ?_ }
  intro x c'
  have h1 := hok.balances x c'
  rw [balanceOf_credit] at h1 hg
  simp only [and_self, if_true] at hg
  split at h1
  · next h => obtain ⟨e1, e2⟩ := h; subst e1; subst e2; omega
  · omega

/-- **One hop of a buy route** (the debt moves from the coin bought to the coin paid with). -/
theorem buyHop (P : Params) (s : State) (adj : Option PoolAdj) (hpok : PoolsOk s) (σ : State) (who : Addr) (a b : Coin) (amountOut gross : Int)
    (mv : Move) (j : PoolAdj) (hmv : pairBuyMove P s adj who a b amountOut who = .ok (mv, gross, j))
    (hok : AmountsOk (credit σ who b amountOut))
    (hkeys : ∀ x y, (getPool σ x y).isSome = (getPool s x y).isSome)
    (hv1 : PoolView s adj σ a b) (hv2 : PoolView s adj σ b a) :
    AmountsOk (credit (applyAll σ mv.prims) who a gross) ∧
    (∀ x c, balanceOf (credit σ who b amountOut) x c ≤ balanceOf (credit (applyAll σ mv.prims) who a gross) x c) ∧
    (∀ x y, (getPool (applyAll σ mv.prims) x y).isSome = (getPool s x y).isSome) ∧
    (∀ x y, ¬((x = a ∧ y = b) ∨ (x = b ∧ y = a)) → getPool (applyAll σ mv.prims) x y = getPool σ x y) := by
  obtain ⟨net, burn, hout, hnet, hsum, hburn, hgross, hshape, r0, r1, hres, hq⟩ := pairBuyMove_shape P s adj who a b amountOut who mv gross j hmv
  obtain ⟨_, hsfb⟩ := sfb_val_pos _ _ _ _ hq hnet
  have hg0 : 0 ≤ gross := by have := com0999_nonneg net (by omega); omega
  have hb0 : 0 ≤ burn := by rw [hburn]; exact (com1000_bounds gross hg0).1
  obtain ⟨fwd, hfwd, rfl⟩ : ∃ fwd, (getPool s a b).isSome = fwd ∧
      mv = .poolSell who (if fwd then a else b) (if fwd then b else a) fwd net amountOut burn false who := by
    rcases hshape with ⟨hs, rfl⟩ | ⟨hs, rfl⟩
    · exact ⟨true, hs, rfl⟩
    · exact ⟨false, hs, rfl⟩
  obtain ⟨p, hp, e0, e1⟩ := hop_entry s adj hpok σ a b r0 r1 hkeys hv1 hv2 hres hfwd
  subst e0 e1
  have hpp := hok.pools p (findFirst_mem _ _ _ hp).1
  obtain ⟨hk, hoth⟩ := poolSell_frame σ who (if fwd then a else b) (if fwd then b else a) fwd net amountOut burn who
  -- In either orientation the move is four primitives, and the entry keeps positive reserves.
  obtain ⟨d0, d1, h0, h1, hprims⟩ : ∃ d0 d1, 0 < p.r0 + d0 ∧ 0 < p.r1 + d1 ∧
      (Move.poolSell who (if fwd then a else b) (if fwd then b else a) fwd net amountOut burn false who).prims =
        [.addPool (if fwd then a else b) (if fwd then b else a) d0 d1, .addBal Move.prims.burnAddressM a burn,
          .addBal who a (-(net + burn)), .addBal who b amountOut] := by
    cases fwd
    · have := (sellForBuy_K _ _ _ _ hpp.2 hpp.1 hout hsfb).1
      exact ⟨-amountOut, net, by omega, by omega, rfl⟩
    · have := (sellForBuy_K _ _ _ _ hpp.1 hpp.2 hout hsfb).1
      exact ⟨net, -amountOut, by omega, by omega, rfl⟩
  rw [hprims] at hk hoth ⊢
  -- In the credited state that is: change the pool entry and credit the burn address; the buyer's own two entries cancel against
  -- the two debts (`gross = net + burn`).
  have hok2 := (hok.prim (p := .addPool _ _ d0 d1) (optProp_iff.mpr fun q hq => by cases hp.symm.trans hq; exact ⟨h0, h1⟩) nofun).credit
    Move.prims.burnAddressM a hb0
  have hbaleq : ∀ x c, balanceOf (credit (applyAll σ [.addPool (if fwd then a else b) (if fwd then b else a) d0 d1,
        .addBal Move.prims.burnAddressM a burn, .addBal who a (-(net + burn)), .addBal who b amountOut]) who a gross) x c =
      balanceOf ((Prim.addBal Move.prims.burnAddressM a burn).apply
        ((Prim.addPool (if fwd then a else b) (if fwd then b else a) d0 d1).apply (credit σ who b amountOut))) x c := by
    intro x c
    simp only [balanceOf_credit, applyAll, List.foldl, apply_balance', Prim.balDelta']
    by_cases hwa : who = x ∧ a = c
    · obtain ⟨rfl, rfl⟩ := hwa; simp only [and_self, if_true, true_and, and_true]; omega
    · simp only [hwa, if_false]; omega
  refine ⟨amountsOk_transfer _ _ hbaleq (by simp only [credit, applyAll, List.foldl, Prim.apply]) hok2, fun x c => ?_, fun x y => (hk x y).trans (hkeys x y), fun x y hxy => hoth x y fun h => hxy ?_⟩
  · rw [hbaleq]
    simp only [apply_balance', Prim.balDelta']
    split <;> omega
  · cases fwd
    · exact .inr h
    · exact .inl h

/-! ### The route -/

/-- The coin the buyer finally pays with: the last coin of the reversed route. -/
def lastCoin : Coin → List Coin → Coin
  | b, [] => b
  | _, a :: t => lastCoin a t

theorem lastCoin_append_single (l : List Coin) (b z : Coin) : lastCoin b (l ++ [z]) = z := by
  induction l generalizing b with
  | nil => rfl
  | cons a t ih => simp only [List.cons_append, lastCoin]; exact ih a

theorem lastCoin_reverse (coins : List Coin) (h : coins ≠ []) : lastCoin (coins.reverse.headD 0) coins.reverse.tail = coins.headD 0 := by
  cases coins with
  | nil => exact absurd rfl h
  | cons c cs =>
    simp only [List.reverse_cons, List.headD_cons]
    cases hr : cs.reverse with
    | nil => simp [lastCoin]
    | cons d ds => simp only [List.cons_append, List.headD_cons, List.tail_cons]; exact lastCoin_append_single ds d c

theorem routeBuy_keeps (P : Params) (s : State) (adj : Option PoolAdj) (who : Addr) (hpok : PoolsOk s) :
    ∀ (rest : List Coin) (b : Coin) (want : Int) (ms : List Move) (paid : Int) (σ : State),
      routeBuyExec P s adj who b rest want = .ok (ms, paid) → AmountsOk (credit σ who b want) →
      (∀ x y, (getPool σ x y).isSome = (getPool s x y).isSome) →
      (∀ pr ∈ pairsOf b rest, PoolView s adj σ pr.1 pr.2 ∧ PoolView s adj σ pr.2 pr.1) →
      RouteDistinct b rest →
      AmountsOk (credit (applyAll σ (planOf ms)) who (lastCoin b rest) paid) ∧
        ∀ x c, balanceOf (credit σ who b want) x c ≤ balanceOf (credit (applyAll σ (planOf ms)) who (lastCoin b rest) paid) x c := by
  intro rest
  induction rest with
  | nil =>
    intro b want ms paid σ h hok _ _ _
    cases h
    exact ⟨hok, fun _ _ => Int.le_refl _⟩
  | cons a t ih =>
    intro b want ms paid σ h hok hkeys hviews hdist
    obtain ⟨mv, gross, j, ms', hm, hrec, rfl⟩ := routeBuyExec_cons h
    rw [planOf_cons, applyAll_append]
    have hv := hviews (b, a) (List.mem_cons_self ..)
    obtain ⟨hok1, hmono, hk1, hoth⟩ := buyHop P s adj hpok σ who a b want gross mv j hm hok hkeys hv.2 hv.1
    have hd := List.pairwise_cons.mp hdist
    obtain ⟨hokf, hmonof⟩ := ih a gross ms' _ _ hrec hok1 hk1
      (fun pr hpr => poolViews_keep hoth (fun hc => hd.1 pr hpr (hc.symm.imp And.symm And.symm)) (hviews pr (List.mem_cons_of_mem _ hpr)))
      hd.2
    exact ⟨hokf, fun x c => Int.le_trans (hmono x c) (hmonof x c)⟩

/-! ### BuySwapPool (24) -/

theorem buyPool_typed (hok : AmountsOk s) (hsorted : PoolsSorted s)
    (h : runBuyPool P o s t price = .ok (.ok rd)) : Checked P o s price rd ∧ BodyKeeps s rd := by
  simp only [runBuyPool] at h
  split at h
  · cases h
  next hbasic =>
  obtain ⟨com, hcom, h⟩ := withCom_ready_iff.mp h
  split at h
  · cases h
  · cases h
  next pay hcheck =>
  simp only [guard_ready_iff, pure_ready_iff] at h
  obtain ⟨h1, hg, rfl⟩ := h
  have hf := funds_sum_in_coin hg h1
  have hne : coinList (t.str "d.Coins") ≠ [] := by
    intro e
    rw [e] at hbasic
    simp [routeBasic] at hbasic
  refine ⟨⟨hcom, hf.1⟩, fun s1 paid body tags hpay hfr hok1 he => ?_⟩
  simp only at hpay hfr he
  have hpok := poolsOk_of s hsorted hok
  split at he
  · cases he
  next ms payd hx =>
  cases he
  have hv := routeBuyExec_pos P s paid.adj t.sender _ _ _ _ _ (reverse_tail_ne _ (routeBasic_tail s _ hbasic)) hx
  have hle := routeBuyExec_le_check P s t.gasCoin com _ paid.adj t.sender
    (fun a b r hsim => sim_vs_real s hpok t.sender t.gasCoin com 0 paid hpay a b r hsim) _ _ _ _ _ _ _ _ hv (Int.le_refl _) hcheck hx
  have hok0 : AmountsOk (credit s1 t.sender ((coinList (t.str "d.Coins")).reverse.headD 0) (t.int "d.ValueToBuy")) := by
    apply primSafe_preserves s1 _ hok1 rfl
    have := hok1.balances t.sender ((coinList (t.str "d.Coins")).reverse.headD 0)
    simp only [PrimSafe]; omega
  obtain ⟨hokf, hmono⟩ := routeBuy_keeps P s paid.adj t.sender hpok _ _ _ _ _ s1 hx hok0
    (frame_keys s s1 t.sender t.gasCoin com paid.adj hfr)
    (fun pr _ => ⟨getPool_frame s s1 t.sender t.gasCoin com paid.adj hfr hsorted _ _, getPool_frame s s1 t.sender t.gasCoin com paid.adj hfr hsorted _ _⟩)
    (routeDistinct_of_ids_rev s hsorted _ _ (routeBuyCheck_ids P s _ _ _ _ _ _ _ _ hcheck).1)
  rw [lastCoin_reverse _ hne] at hokf hmono
  apply amountsOk_uncredit _ t.sender _ payd hokf
  have hm := hmono t.sender ((coinList (t.str "d.Coins")).headD 0)
  have hb1 := spend_after_fee s s1 t.sender t.gasCoin _ com paid.adj _ hfr hf.2
  rw [balanceOf_credit] at hm
  split at hm <;> omega

end Minter
