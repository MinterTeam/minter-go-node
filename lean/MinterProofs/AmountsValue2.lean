import MinterProofs.AmountsValue
/-
  C02, transaction types that move value (ledger part, continued): Multisend, RedeemCheck, Create/Recreate coin and token,
  Mint/Burn token — every commission route.
-/
namespace Minter

variable {P : Params} {o : Oracle} {s : State} {t : TxIn} {price : Int} {rd : Ready}

/-! ### Multisend (13) -/

theorem multisend_typed (hv : ∀ it ∈ parseMultisend (t.str "d.List"), 0 ≤ it.2.2)
    (h : runMultisend P o s t price = .ok (.ok rd)) : Checked P o s price rd ∧ BodyKeeps s rd := by
  obtain ⟨com, hcom, hf, rfl⟩ := multisend_funds P o s t price rd h
  have hfg := hf t.gasCoin (Or.inl rfl)
  simp only [beq_self_eq_true, if_true] at hfg
  have hnn := sumFor_nonneg _ hv t.gasCoin
  refine ready_typed hcom (by omega) fun s1 adj hfr hok1 => ?_
  rw [planOf_transfers]
  refine amounts_transfers t.sender _ hv s1 hok1 fun it _ => ?_
  generalize it.1 = c
  have hfb := hfr.bal t.sender c
  by_cases hcin : c = t.gasCoin ∨ ∃ it ∈ parseMultisend (t.str "d.List"), it.1 = c
  · have := hf c hcin
    by_cases hcg : c = t.gasCoin
    · subst hcg; simp only [beq_self_eq_true, if_true, and_self] at this hfb; omega
    · have hne : (c == t.gasCoin) = false := by simpa using hcg
      simp only [hne, Bool.false_eq_true, if_false, hcg, and_false] at this hfb; omega
  · simp only [not_or, not_exists, not_and] at hcin
    have hz := sumFor_zero (parseMultisend (t.str "d.List")) c (fun it hit => hcin.2 it hit)
    have := hok1.balances t.sender c
    omega

/-! ### RedeemCheck (9) -/

theorem redeem_typed {block : Nat} (hv : ∀ k, t.check = some k → 0 ≤ k.value)
    (h : runRedeemCheck P o s block t price = .ok (.ok rd)) : Checked P o s price rd ∧ BodyKeeps s rd := by
  obtain ⟨k, issuer, com, hr, hcom, hp, hc, hcm, _, hex⟩ := redeem_conditions P o s block t price rd h
  obtain ⟨payer, coin, com', minOut, exec⟩ := rd
  simp only at hp hc hcm
  subst hp hc hcm
  have hg := hr.gasCoin
  have hf : com'.commission ≤ balanceOf s payer t.gasCoin ∧
      k.value + (if k.coin = t.gasCoin then com'.commission else 0) ≤ balanceOf s payer k.coin := by
    have hv' := hv k hr.decodes
    by_cases hcg : k.coin = k.gasCoin
    · have := hr.funds.1 hcg
      rw [hg, ← hcg]; simp only [if_true]; omega
    · have := hr.funds.2 hcg
      rw [hg]; simp only [hcg, if_false]; omega
  refine typed_of_exec hcom hf.1 hex fun s1 adj hfr hok1 => ?_
  rw [planOf_cons, prims_admin rfl, planOf_single]
  exact transfer_safe _ (hok1.admin (p := .useCheck k.hash) rfl) _ _ _ _ (hv k hr.decodes)
    (spend_after_fee s s1 payer t.gasCoin k.coin com' adj k.value hfr hf.2)

/-! ### The coin registry after the commission -/

/-- A registry entry after the commission: as before, or — the bancor-paid gas coin — with the commission taken off its volume and the
    base value off its reserve. -/
theorem frame_coin (s s1 : State) (payer : Addr) (gas : Coin) (com : Com) (adj : Option PoolAdj) (c : Coin) (ci : CoinInfo)
    (hfr : FeeFrame s s1 payer gas com adj) (hci : getCoin s c = some ci) :
    getCoin s1 c = some ci ∨
      (c = gas ∧ com.fromPool = false ∧ gas ≠ 0 ∧
        getCoin s1 c = some { ci with volume := ci.volume - com.commission, reserve := ci.reserve - com.inBase }) := by
  rw [frame_getCoin s s1 payer gas com adj c hfr, hci]
  split
  · next h => exact .inr ⟨h.1, h.2.1, h.2.2, rfl⟩
  · exact .inl rfl

/-! ### MintToken (28), BurnToken (29) -/

theorem mint_typed (ho : OracleSound o) (hP : 0 ≤ P.minReserve) (hok : AmountsOk s) (hp0 : 0 ≤ price) (hv : 0 ≤ t.int "d.Value")
    (h : runMintToken P o s t price = .ok (.ok rd)) : Checked P o s price rd ∧ BodyKeeps s rd := by
  obtain ⟨com, ci, hcom, hf, hci, hmax, -, -, -, -, rfl⟩ := mint_funds P o s t price rd h
  refine ready_typed hcom hf fun s1 adj hfr hok1 => ?_
  rw [planOf_single]
  have hb := hok1.balances t.sender (t.nat "d.Coin")
  have hciok := hok.coins ci (findFirst_mem _ _ _ hci).1
  rcases frame_coin s s1 t.sender t.gasCoin com adj _ ci hfr hci with h1 | ⟨hcg, hfp, hg, h1⟩
  · exact mint_safe s1 hok1 _ _ _ ci h1 (by omega) (by omega) (by omega)
  · have hs := (calcCommission_sound P o s t.gasCoin price com ho hP hok hp0 hcom).1 hfp hg
    rw [← hcg, hci] at hs
    simp only [optProp_some] at hs
    exact mint_safe s1 hok1 _ _ _ _ h1 (by simp only; omega) (by simp only; omega) (by omega)

/-- Coins that can be burnt have no reserve (CreateCoin registers reserve coins as not burnable; tokens and pool tokens have no reserve). -/
def BurnableNoReserve (s : State) : Prop := ∀ ci ∈ s.coins, ci.burnable = true → ci.crr = 0

theorem burn_typed (hwf : BurnableNoReserve s) (hv : 0 ≤ t.int "d.Value")
    (h : runBurnToken P o s t price = .ok (.ok rd)) : Checked P o s price rd ∧ BodyKeeps s rd := by
  obtain ⟨com, ci, hcom, h1, hci, hmin, -, h2, hburnable, rfl⟩ := burn_funds P o s t price rd h
  have hf := funds_sum_in_coin (Int.not_lt.mpr h1) (Int.not_lt.mpr h2)
  refine ready_typed hcom hf.1 fun s1 adj hfr hok1 => ?_
  rw [planOf_single]
  have hb := spend_after_fee s s1 t.sender t.gasCoin _ com adj _ hfr hf.2
  rcases frame_coin s s1 t.sender t.gasCoin com adj _ ci hfr hci with h1 | ⟨hcg, hfp, hg, h1⟩
  · have hciok := hok1.coins ci (findFirst_mem _ _ _ h1).1
    exact mint_safe s1 hok1 _ _ _ ci h1 (by omega) (by omega) (by omega)
  · -- the coin being burnt is the bancor-paid gas coin: it would have a reserve, but burnable coins have none
    by_cases hz : com.commission = 0
    · have hciok := hok1.coins _ (findFirst_mem _ _ _ h1).1
      simp only at hciok
      exact mint_safe s1 hok1 _ _ _ _ h1 (by simp only; omega) (by simp only; omega) (by omega)
    · obtain ⟨cg, hcg', hres⟩ := calcCommission_reserve P o s t.gasCoin price com hcom hfp hg hz
      rw [← hcg, hci] at hcg'
      cases hcg'
      have := hwf ci (findFirst_mem _ _ _ hci).1 hburnable
      simp [hasReserve, this] at hres

/-! ### CreateCoin (5), CreateToken (30), RecreateCoin (16), RecreateToken (31) -/

theorem com_base_eq (P : Params) (o : Oracle) (s : State) (gas : Coin) (price : Int) (com : Com)
    (hcom : calcCommission P o s gas price = .ok (.ok com)) : gas = 0 → com.commission = com.inBase := by
  intro hg
  rw [hg] at hcom
  rw [calcCommission_base P o s price com hcom]

theorem createCoin_typed (hP : 0 ≤ P.minReserve)
    (h : runCreateCoin P o s t price = .ok (.ok rd)) : Checked P o s price rd ∧ BodyKeeps s rd := by
  simp only [runCreateCoin, guard_ready_iff, withCom_ready_iff, ready_iff, Bool.or_eq_true, decide_eq_true_eq, not_or, Int.not_lt, gt_iff_lt] at h
  obtain ⟨-, -, -, -, ⟨ha, ha1⟩, hres, -, com, hcom, h1, h2, rfl⟩ := h
  -- when the gas coin is the base coin the commission is its own base value, which is what the handler added to the reserve
  have hf : t.int "d.InitialReserve" + (if (0 : Coin) = t.gasCoin then com.commission else 0) ≤ balanceOf s t.sender 0 := by
    rw [addIfGas_eq] at h2
    split at h2
    · next e => rw [com_base_eq P o s t.gasCoin price com hcom e.symm]; omega
    · omega
  refine ready_typed hcom h1 fun s1 adj hfr hok1 => ?_
  rw [planOf_single]
  exact createCoin_safe s1 hok1 _ _ (spend_after_fee s s1 t.sender t.gasCoin 0 com adj _ hfr hf)
    (Int.le_trans (by decide) ha) (Int.le_trans hP hres) ha1

theorem createToken_typed (h : runCreateToken P o s t price = .ok (.ok rd)) : Checked P o s price rd ∧ BodyKeeps s rd := by
  simp only [runCreateToken, guard_ready_iff, withCom_ready_iff, ready_iff, Bool.or_eq_true, decide_eq_true_eq, not_or, Int.not_lt, gt_iff_lt] at h
  obtain ⟨-, -, -, -, ⟨ha, ha1⟩, -, com, hcom, h1, rfl⟩ := h
  refine ready_typed hcom h1 fun s1 adj hfr hok1 => ?_
  rw [planOf_single]
  exact createCoin_safe s1 hok1 _ _ (hok1.balances _ _) (Int.le_trans (by decide) ha) (Int.le_refl 0) ha1

theorem recreateCoin_typed (hP : 0 ≤ P.minReserve)
    (h : runRecreateCoin P o s t price = .ok (.ok rd)) : Checked P o s price rd ∧ BodyKeeps s rd := by
  simp only [runRecreateCoin, guard_ready_iff, Bool.or_eq_true, decide_eq_true_eq, not_or, Int.not_lt, gt_iff_lt] at h
  obtain ⟨-, ⟨ha, ha1⟩, -, hres, -, -, h⟩ := h
  split at h
  · cases h
  simp only [guard_ready_iff, withCom_ready_iff, ready_iff] at h
  obtain ⟨-, com, hcom, h1, h2, h3, rfl⟩ := h
  have hf : t.int "d.InitialReserve" + (if (0 : Coin) = t.gasCoin then com.commission else 0) ≤ balanceOf s t.sender 0 := by
    split
    · next e => simp only [← e, beq_self_eq_true, Bool.true_and, decide_eq_true_eq] at h3; omega
    · omega
  refine ready_typed hcom (Int.not_lt.mp h1) fun s1 adj hfr hok1 => ?_
  rw [planOf_cons, prims_admin rfl, planOf_single]
  exact createCoin_safe _ (hok1.admin (p := .bumpVersion _ _) rfl) _ _ (spend_after_fee s s1 t.sender t.gasCoin 0 com adj _ hfr hf)
    (Int.le_trans (by decide) ha) (Int.le_trans hP hres) ha1

theorem recreateToken_typed (h : runRecreateToken P o s t price = .ok (.ok rd)) : Checked P o s price rd ∧ BodyKeeps s rd := by
  simp only [runRecreateToken, guard_ready_iff, Bool.or_eq_true, decide_eq_true_eq, not_or, Int.not_lt, gt_iff_lt] at h
  obtain ⟨-, -, ⟨ha, ha1⟩, -, -, h⟩ := h
  split at h
  · cases h
  simp only [guard_ready_iff, withCom_ready_iff, ready_iff] at h
  obtain ⟨-, com, hcom, h1, rfl⟩ := h
  refine ready_typed hcom (Int.not_lt.mp h1) fun s1 adj hfr hok1 => ?_
  rw [planOf_cons, prims_admin rfl, planOf_single]
  exact createCoin_safe _ (hok1.admin (p := .bumpVersion _ _) rfl) _ _ (hok1.balances _ _) (Int.le_trans (by decide) ha) (Int.le_refl 0) ha1

end Minter
