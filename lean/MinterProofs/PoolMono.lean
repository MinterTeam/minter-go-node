import MinterModel.Tx
import MinterProofs.Props.C13
import Mathlib.Tactic.Linarith
import Mathlib.Tactic.Ring
/-
  Monotonicity of the pool kernels, for C15: a trader is never worse off with a smaller input-side reserve, a larger
  amount sold, or a smaller amount bought.  Both kernels are floor quotients, compared by cross-multiplication
  (`ediv_le_ediv_of_cross`).
-/
namespace Minter

/-- `a - com1000 a`: what reaches the pool of an amount sold, after the 0.1 % burn. -/
theorem net_mono (a a' : Int) (ha : 0 ≤ a) (h : a ≤ a') : a - com1000 a ≤ a' - com1000 a' := by
  rw [com1000_ceil a ha, com1000_ceil a' (by omega)]
  omega

/-- `a + com0999 a`: what is debited for a purchase whose pool input is `a` (the 0.1 % on top). -/
theorem gross_mono (a a' : Int) (ha : 0 ≤ a) (h : a ≤ a') : a + com0999 a ≤ a' + com0999 a' := by
  rw [com0999_ceil a ha, com0999_ceil a' (by omega)]
  omega

theorem ediv_le_ediv_of_cross (a b c d : Int) (hb : 0 < b) (hd : 0 < d) (h : a * d ≤ c * b) : a / b ≤ c / d := by
  refine Int.le_ediv_of_mul_le hd (Int.le_of_mul_le_mul_right ?_ hb)
  calc a / b * d * b = a / b * b * d := by ring
    _ ≤ a * d := mul_le_mul_of_nonneg_right (Int.ediv_mul_le a hb.ne') hd.le
    _ ≤ c * b := h

theorem buyForSell_mono (r0 r0' r1 a a' d d' : Int) (h0 : 0 < r0') (hr : r0' ≤ r0) (h1 : 0 < r1) (ha : 0 < a) (haa : a ≤ a')
    (h : buyForSell r0 r1 a = some d) (h' : buyForSell r0' r1 a' = some d') : d ≤ d' := by
  have h0r : 0 < r0 := by omega
  obtain ⟨-, rfl⟩ := (buyForSell_some h0r.le h1.le).1 h
  obtain ⟨-, rfl⟩ := (buyForSell_some h0.le h1.le).1 h'
  -- the quotient falls: cross-multiplied and with the common factors taken out, `r0'·a ≤ r0·a'`
  have hx : r1 * (r0' * a) ≤ r1 * (r0 * a') := mul_le_mul_of_nonneg_left (mul_le_mul hr haa ha.le h0r.le) h1.le
  have := ediv_le_ediv_of_cross (r0' * r1 * 1000000) (((a' + r0') * 1000 - a' * 2) * 1000) (r0 * r1 * 1000000)
    (((a + r0) * 1000 - a * 2) * 1000) (by omega) (by omega) (by linarith)
  omega

theorem sellForBuy_mono (r0 r0' r1 w w' x x' : Int) (h0 : 0 < r0') (hr : r0' ≤ r0) (h1 : 0 < r1) (hw : 0 < w') (hww : w' ≤ w)
    (h : sellForBuy r0 r1 w = some x) (h' : sellForBuy r0' r1 w' = some x') : x' ≤ x := by
  have h0r : 0 < r0 := by omega
  obtain ⟨hlt, rfl⟩ := sellForBuy_some h0r.le (by omega) h
  obtain ⟨-, rfl⟩ := sellForBuy_some h0.le hw.le h'
  have hx : r0' * w' * (r1 - w) ≤ r0 * w * (r1 - w') :=
    mul_le_mul (mul_le_mul hr hww hw.le h0r.le) (by omega) (by omega) (mul_nonneg h0r.le (by omega))
  have := ediv_le_ediv_of_cross (r0' * w' * 1000000) ((r1 - w') * 1000) (r0 * w * 1000000) ((r1 - w) * 1000) (by omega) (by omega)
    (by linarith)
  omega

end Minter
