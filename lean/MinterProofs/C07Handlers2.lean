import MinterProofs.C07Handlers
/-
  The handlers with a sub-computation that can fault: bancor conversions (faults come only from the oracle: `askonly`), check
  redemption, Delegate / DeclareCandidacy (`calculateBipValue` cannot divide by zero under `AmountsOk`), and Unbond / MoveStake, whose
  deliver half calls `SubStake`, safe only because of the validation's `unbondCheck` (F32).
-/
namespace Minter

/-- Closes goals `NoPanic (…)` of computations whose only faults come from the oracle. -/
macro "askonly" : tactic =>
  `(tactic| (repeat' (first
      | exact NoPanic_pure _
      | exact NoPanic_throw_of (ask_noPanic _ _) (by assumption)
      | split)))

theorem saleReturnAndCheck_noPanic (P : Params) (o : Oracle) (v : BView) (x : Int) : NoPanic (saleReturnAndCheck P o v x) := by
  unfold saleReturnAndCheck; askonly

theorem saleAmountAndCheck_noPanic (P : Params) (o : Oracle) (v : BView) (x : Int) : NoPanic (saleAmountAndCheck P o v x) := by
  unfold saleAmountAndCheck; askonly

theorem sellStep2_noPanic (o : Oracle) (buy : Coin) (v : BView) (x : Int) : NoPanic (sellStep2 o buy v x) := by
  unfold sellStep2; askonly

theorem buyStep1_noPanic (o : Oracle) (buy : Coin) (v : BView) (x : Int) : NoPanic (buyStep1 o buy v x) := by
  unfold buyStep1; askonly

theorem buyStep2_noPanic (P : Params) (o : Oracle) (sell : Coin) (v : BView) (x : Int) : NoPanic (buyStep2 P o sell v x) := by
  unfold buyStep2
  split
  · exact NoPanic_pure _
  · exact saleAmountAndCheck_noPanic _ _ _ _

theorem sellQuote_noPanic (P : Params) (o : Oracle) (sell buy : Coin) (f t : BView) (x : Int) : NoPanic (sellQuote P o sell buy f t x) := by
  unfold sellQuote
  split
  · exact sellStep2_noPanic _ _ _ _
  · split
    · exact NoPanic_throw_of (saleReturnAndCheck_noPanic _ _ _ _) (by assumption)
    · exact NoPanic_pure _
    · exact sellStep2_noPanic _ _ _ _

section
variable {P : Params} {s : State} (hinv : TxInv P s) (o : Oracle) (t : TxIn) (price : Int) (hp : 0 ≤ price) (b : Nat)
include hinv hp

theorem runSellCoin_good : Good (ReadyGood P o s price) (runSellCoin P o s t price) := by
  simp only [runSellCoin]
  split
  · exact Good_error
  · simp only [Good_guard, Good_withCom hinv o hp]
    intros
    split
    · exact Good_sub (sellQuote_noPanic _ _ _ _ _ _ _) ‹_›
    · exact Good_error
    · simp only [Good_guard]
      intros; exact Good_ready ‹_› hp

theorem runBuyCoin_good : Good (ReadyGood P o s price) (runBuyCoin P o s t price) := by
  simp only [runBuyCoin]
  split
  · exact Good_error
  · simp only [Good_withCom hinv o hp]
    intros
    split
    · exact Good_sub (buyStep1_noPanic _ _ _ _) ‹_›
    · exact Good_error
    · split
      · exact Good_sub (buyStep2_noPanic _ _ _ _ _) ‹_›
      · exact Good_error
      · simp only [Good_guard]
        intros; exact Good_ready ‹_› hp

theorem runSellAllCoin_good : Good (ReadyGood P o s price) (runSellAllCoin P o s t price) := by
  simp only [runSellAllCoin]
  split
  · exact Good_error
  · simp only [Good_guard, Good_withCom hinv o hp]
    intro com hc hcg _ _
    split
    · exact Good_sub (sellQuote_noPanic _ _ _ _ _ _ _) ‹_›
    · exact Good_error
    · simp only [Good_guard, Good_ok]
      exact fun _ => ReadyGood_const hc (Int.le_of_eq hcg.inBase_eq)

end

theorem sumBy_stakeOf_nonneg (coin : Coin) (l : List Stake) (h : ∀ st ∈ l, 0 ≤ st.value) : 0 ≤ sumBy (stakeOf coin) l := by
  apply sumBy_nonneg
  intro st hst
  unfold stakeOf
  have := h st hst
  split <;> omega

theorem totalDelegated_nonneg (s : State) (hok : AmountsOk s) (coin : Coin) : 0 ≤ totalDelegated s coin := by
  unfold totalDelegated
  apply sumBy_nonneg
  intro cd hcd
  unfold candHoldings
  have h1 := sumBy_stakeOf_nonneg coin cd.stakes (hok.stakes cd hcd).1
  have h2 := sumBy_stakeOf_nonneg coin cd.updates (hok.stakes cd hcd).2
  omega

/-- The divisor of `calculateBipValue` is `amount + totalDelegated`: positive, because a zero amount returns before it and
    `totalDelegated ≥ 0` under `AmountsOk`. -/

theorem bipValue_noPanic (o : Oracle) (s : State) (hok : AmountsOk s) (coin : Coin) (amount : Int)
    (hex : coinExists s coin = true) (ha : 0 ≤ amount) : NoPanic (bipValue o s coin amount) := by
  unfold bipValue
  split
  · exact NoPanic_pure _
  · rename_i hc
    have hc' : coin ≠ 0 := by simpa using hc
    split
    · exact NoPanic_pure _
    · rename_i hz
      have hz' : amount ≠ 0 := by simpa using hz
      obtain ⟨ci, hci⟩ := getCoin_of_exists s coin hex hc'
      rw [hci]
      simp only
      split
      · exact NoPanic_throw_of (ask_noPanic _ _) (by assumption)
      · have := totalDelegated_nonneg s hok coin
        have hne : ¬ ((amount + totalDelegated s coin == 0) = true) := by
          simp only [beq_iff_eq]; omega
        simp only [hne]
        exact NoPanic_pure _

theorem stakeAllowed_noPanic (P : Params) (o : Oracle) (s : State) (hok : AmountsOk s) (a : Addr) (cd : Candidate) (coin : Coin) (amount : Int)
    (hex : coinExists s coin = true) (ha : 0 ≤ amount) : NoPanic (stakeAllowed P o s a cd coin amount) := by
  unfold stakeAllowed
  split
  · exact NoPanic_throw_of (bipValue_noPanic o s hok coin amount hex ha) (by assumption)
  · simp only
    repeat' (first | exact NoPanic_pure _ | split)

theorem newCandidateStakeOk_noPanic (o : Oracle) (s : State) (hok : AmountsOk s) (coin : Coin) (stake : Int) (limit : Nat)
    (hex : coinExists s coin = true) (ha : 0 ≤ stake) : NoPanic (newCandidateStakeOk o s coin stake limit) := by
  unfold newCandidateStakeOk
  split
  · exact NoPanic_throw_of (bipValue_noPanic o s hok coin stake hex ha) (by assumption)
  · exact NoPanic_pure _

section
variable {P : Params} {s : State} (hinv : TxInv P s) (o : Oracle) (t : TxIn) (price : Int) (hp : 0 ≤ price) (b : Nat)
include hinv hp

theorem runRedeemCheck_good : Good (ReadyGood P o s price) (runRedeemCheck P o s b t price) := by
  simp only [runRedeemCheck, Good_guard]
  intros
  split
  · exact Good_error
  · simp only [Good_guard]
    intros
    split
    · exact Good_error
    · simp only [Good_guard, Good_withCom hinv o hp, Good_ok]
      intros; exact ReadyGood_const ‹_› hp

theorem runDelegate_good : Good (ReadyGood P o s price) (runDelegate P o s t price) := by
  simp only [runDelegate, Good_guard]
  intro hex _ htot
  split
  · exact Good_error
  · split
    · refine Good_sub ?_ ‹_›
      exact stakeAllowed_noPanic P o s hinv.amountsOk _ _ _ _ (of_not_not_b hex) (by omega)
    · simp only [Good_guard, Good_withCom hinv o hp]
      intros; exact Good_ready ‹_› hp

variable (hwf : TxWf t)
include hwf

theorem runDeclare_good : Good (ReadyGood P o s price) (runDeclare P o s b t price) := by
  simp only [runDeclare, Good_guard]
  intro hex _ _ _ _
  split
  · refine Good_sub ?_ ‹_›
    split
    · split
      · exact NoPanic_throw_of (newCandidateStakeOk_noPanic o s hinv.amountsOk _ _ _ (of_not_not_b hex) (hwf.ints _)) (by assumption)
      · exact NoPanic_pure _
    · exact NoPanic_pure _
  · exact Good_error
  · simp only [Good_guard, Good_withCom hinv o hp]
    intros; exact Good_ready ‹_› hp

end

/-- True because the last branch of `unbondCheck` rejects `wlStake ≤ 0` (/repo abd6676, F32): a zero value with neither a stake nor a
    waitlist entry does not pass. -/

theorem unbondCheck_none (s : State) (a : Addr) (pk : PubKey) (coin : Coin) (value : Int) (h : unbondCheck s a pk coin value = none) :
    (∃ w, waitGet s a pk coin = some w ∧ value ≤ w.value) ∨
    (∃ cd, candByKey s pk = some cd ∧ cd.stakes.any (stakeKey a coin) = true) := by
  unfold unbondCheck at h
  simp only at h
  -- without a stake at the candidate every path but the early exit answers a code, so the waitlist entry must cover the value
  have early : (∀ st, ∀ cd, candByKey s pk = some cd → findFirst (stakeKey a coin) cd.stakes ≠ some st) →
      ∃ w, waitGet s a pk coin = some w ∧ value ≤ w.value := by
    intro hno
    cases hwl : waitGet s a pk coin with
    | some w =>
      by_cases hv : value ≤ w.value
      · exact ⟨w, rfl, hv⟩
      · exfalso
        simp only [hwl, hv, decide_false, Bool.false_eq_true, if_false] at h
        split at h
        · cases h
        · next cd hcd =>
          cases hst : findFirst (stakeKey a coin) cd.stakes with
          | some st => exact hno st cd hcd hst
          | none =>
            simp only [hst, Bool.false_eq_true, if_false] at h
            split at h
            · split at h <;> cases h
            · next hc => simp only [Bool.or_eq_true, decide_eq_true_eq, not_or] at hc; omega
    | none =>
      exfalso
      simp only [hwl, Bool.false_eq_true, if_false] at h
      split at h
      · cases h
      · next cd hcd =>
        cases hst : findFirst (stakeKey a coin) cd.stakes with
        | some st => exact hno st cd hcd hst
        | none => simp [hst] at h
  by_cases hs : ∃ st cd, candByKey s pk = some cd ∧ findFirst (stakeKey a coin) cd.stakes = some st
  · obtain ⟨st, cd, hcd, hst⟩ := hs
    exact .inr ⟨cd, hcd, any_of_findFirst _ _ _ hst⟩
  · exact .inl (early fun st cd hcd hst => hs ⟨st, cd, hcd, hst⟩)

/-- C07: after a passed `unbondCheck`, `SubStake` never meets a missing stake or candidate (the nil dereference of F32). -/

theorem unbondMoves_noPanic (s : State) (a : Addr) (pk : PubKey) (coin : Coin) (value : Int) (height moveTo : Nat)
    (h : unbondCheck s a pk coin value = none) : NoPanic (unbondMoves s a pk coin value height moveTo) := by
  unfold unbondMoves
  simp only
  rcases unbondCheck_none s a pk coin value h with ⟨w, hw, hv⟩ | ⟨cd, hcd, hany⟩
  · rw [hw]
    have : ¬ (w.value < value) := by omega
    simp only [this, decide_false, Bool.false_and, Bool.false_eq_true, if_false]
    split <;> exact NoPanic_pure _
  · rw [hcd]
    simp only [hany, Bool.not_true, Bool.and_false, Bool.false_eq_true, if_false]
    exact NoPanic_pure _

section
variable {P : Params} {s : State} (hinv : TxInv P s) (o : Oracle) (t : TxIn) (price : Int) (hp : 0 ≤ price) (b : Nat)
include hinv hp

/-- Unbond and MoveStake end alike: after `unbondCheck` the commission, its balance check, and an execution that is `unbondMoves`. -/

theorem unbondTail_good {pk : PubKey} {coin : Coin} {value : Int} {height moveTo : Nat} {tags : List (String × String)}
    (hchk : unbondCheck s t.sender pk coin value = none) :
    Good (ReadyGood P o s price) (withCom P o s t.gasCoin price fun com =>
      if balanceOf s t.sender t.gasCoin < com.commission then reject 107 else
      pure (.ok { payer := t.sender, coin := t.gasCoin, com := com,
                  exec := fun _ =>
                    match unbondMoves s t.sender pk coin value height moveTo with
                    | .error e => throw e
                    | .ok ms => pure (ms, tags) })) := by
  simp only [Good_guard, Good_withCom hinv o hp, Good_ok]
  intro _ _ _ _
  refine ⟨‹_›, hp, fun _ _ => ?_⟩
  simp only
  split
  · exact NoPanic_throw_of (unbondMoves_noPanic _ _ _ _ _ _ _ hchk) ‹_›
  · exact NoPanic_pure _

theorem runUnbond_good : Good (ReadyGood P o s price) (runUnbond P o s b t price) := by
  simp only [runUnbond, Good_guard]
  intros
  split
  · exact Good_error
  · exact unbondTail_good hinv o t price hp ‹_›

theorem runMoveStake_good : Good (ReadyGood P o s price) (runMoveStake P o s b t price) := by
  simp only [runMoveStake, Good_guard]
  intros
  split
  · exact Good_error
  · exact unbondTail_good hinv o t price hp ‹_›

end

end Minter
