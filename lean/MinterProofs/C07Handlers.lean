import MinterProofs.C07Com
/-
  A handler (the validation half of `Data.Run`) is a chain of guards around `withCom` ending in `ready`. `Good_guard`, `Good_withCom` and
  `Good_ready` are the rules of `Good` for these three, so the proof for a handler is one rewriting pass
  (`simp only [runX, Good_guard, Good_withCom hinv o hp]`) that leaves the negated guards and the computed commission as hypotheses of
  `Good_ready`; only a `match` in the handler is split. Here: the handlers whose deliver half is a fixed list of moves.
-/
namespace Minter

/-- Decoded integers are never negative (RLP has no encoding for a negative `big.Int`). -/
structure TxWf (t : TxIn) : Prop where
  ints : ∀ k, 0 ≤ t.int k

/-- `minOut ≤ price` is there because `payCommission_total` needs `minOut ≤ inBase`. `ready` leaves `minOut := 0`; only `runSellAllCoin`
    sets another value (`com.inBase`). -/
structure ReadyGood (P : Params) (o : Oracle) (s : State) (price : Int) (rd : Ready) : Prop where
  com : calcCommission P o s rd.coin price = .ok (.ok rd.com)
  minOut : rd.minOut ≤ price
  exec : ∀ paid, payCommission s rd.payer rd.coin rd.com rd.minOut = .ok paid → NoPanic (rd.exec paid.adj)

theorem Good_guard {G : Ready → Prop} {c : Prop} [Decidable c] {k : Nat} {h : Handler} :
    Good G (if c then reject k else h) ↔ (¬c → Good G h) := by
  simp only [Good_ite, reject, Good_error, implies_true, true_and]

theorem ReadyGood_const {P : Params} {o : Oracle} {s : State} {price : Int} {payer : Addr} {coin : Coin} {com : Com} {minOut : Int}
    {x : List Move × List (String × String)} (hc : calcCommission P o s coin price = .ok (.ok com)) (hm : minOut ≤ price) :
    ReadyGood P o s price { payer := payer, coin := coin, com := com, minOut := minOut, exec := fun _ => pure x } :=
  ⟨hc, hm, fun _ _ => NoPanic_pure _⟩

/-- `hp` serves as the proof of `ReadyGood.minOut`, since `ready` leaves `minOut := 0`. -/
theorem Good_ready {P : Params} {o : Oracle} {s : State} {price : Int} {t : TxIn} {com : Com} {body : List Move}
    {tags : List (String × String)} (hc : calcCommission P o s t.gasCoin price = .ok (.ok com)) (hp : 0 ≤ price) :
    Good (ReadyGood P o s price) (ready t com body tags) :=
  Good_ok.mpr (ReadyGood_const hc hp)

theorem Good_withCom {P : Params} {s : State} (hinv : TxInv P s) (o : Oracle) {price : Int} (hp : 0 ≤ price) {G : Ready → Prop}
    {gas : Coin} {k : Com → Handler} :
    Good G (withCom P o s gas price k) ↔
      ∀ com, calcCommission P o s gas price = .ok (.ok com) → ComGood s gas price com → Good G (k com) := by
  obtain ⟨hnp, hsp⟩ := calcCommission_spec hinv o gas price hp
  unfold withCom
  split
  · rename_i e he
    simp only [he, reduceCtorEq, false_imp_iff, implies_true, iff_true]
    exact Good_sub hnp he
  · rename_i c hc
    simp [hc, reject, Good_error]
  · rename_i com hc
    simp only [hc, Except.ok.injEq]
    exact ⟨fun h com' e _ => e ▸ h, fun h => h com rfl (hsp com hc)⟩

section
variable {P : Params} {s : State} (hinv : TxInv P s) (o : Oracle) (t : TxIn) (price : Int) (hp : 0 ≤ price) (b : Nat)
include hinv hp

theorem runSend_good : Good (ReadyGood P o s price) (runSend P o s t price) := by
  simp only [runSend, Good_guard, Good_withCom hinv o hp]
  intros; exact Good_ready ‹_› hp

theorem runMultisend_good : Good (ReadyGood P o s price) (runMultisend P o s t price) := by
  simp only [runMultisend, Good_guard, Good_withCom hinv o hp]
  intros; exact Good_ready ‹_› hp

theorem runCreateCoin_good : Good (ReadyGood P o s price) (runCreateCoin P o s t price) := by
  simp only [runCreateCoin, Good_guard, Good_withCom hinv o hp]
  intros; exact Good_ready ‹_› hp

theorem runCreateToken_good : Good (ReadyGood P o s price) (runCreateToken P o s t price) := by
  simp only [runCreateToken, Good_guard, Good_withCom hinv o hp]
  intros; exact Good_ready ‹_› hp

theorem runEditCoinOwner_good : Good (ReadyGood P o s price) (runEditCoinOwner P o s t price) := by
  simp only [runEditCoinOwner, Good_guard, Good_withCom hinv o hp]
  intros; exact Good_ready ‹_› hp

theorem runLock_good : Good (ReadyGood P o s price) (runLock P o s b t price) := by
  simp only [runLock, Good_guard, Good_withCom hinv o hp]
  intros; exact Good_ready ‹_› hp

theorem runLockStake_good : Good (ReadyGood P o s price) (runLockStake P o s b t price) := by
  simp only [runLockStake, Good_guard, Good_withCom hinv o hp]
  intros; exact Good_ready ‹_› hp

theorem runRecreateCoin_good : Good (ReadyGood P o s price) (runRecreateCoin P o s t price) := by
  simp only [runRecreateCoin, Good_guard]
  intros
  split
  · exact Good_error
  · simp only [Good_guard, Good_withCom hinv o hp]
    intros; exact Good_ready ‹_› hp

theorem runRecreateToken_good : Good (ReadyGood P o s price) (runRecreateToken P o s t price) := by
  simp only [runRecreateToken, Good_guard]
  intros
  split
  · exact Good_error
  · simp only [Good_guard, Good_withCom hinv o hp]
    intros; exact Good_ready ‹_› hp

theorem runMintToken_good : Good (ReadyGood P o s price) (runMintToken P o s t price) := by
  simp only [runMintToken, Good_guard]
  intros
  split
  · exact Good_error
  · simp only [Good_guard, Good_withCom hinv o hp]
    intros; exact Good_ready ‹_› hp

theorem runBurnToken_good : Good (ReadyGood P o s price) (runBurnToken P o s t price) := by
  simp only [runBurnToken, Good_guard]
  intros
  split
  · exact Good_error
  · simp only [Good_guard, Good_withCom hinv o hp]
    intros; exact Good_ready ‹_› hp

theorem runSetOn_good : Good (ReadyGood P o s price) (runSetOn P o s b t price) := by
  simp only [runSetOn]
  split
  · exact Good_error
  · simp only [Good_guard, Good_withCom hinv o hp]
    intros; exact Good_ready ‹_› hp

theorem runSetOff_good : Good (ReadyGood P o s price) (runSetOff P o s t price) := by
  simp only [runSetOff]
  split
  · exact Good_error
  · simp only [Good_guard, Good_withCom hinv o hp]
    intros; exact Good_ready ‹_› hp

theorem runEditCandidate_good : Good (ReadyGood P o s price) (runEditCandidate P o s t price) := by
  unfold runEditCandidate
  split
  · exact Good_error
  · simp only [Good_guard, Good_withCom hinv o hp]
    intros; exact Good_ready ‹_› hp

theorem runEditPubKey_good : Good (ReadyGood P o s price) (runEditPubKey P o s t price) := by
  simp only [runEditPubKey]
  split
  · exact Good_error
  · simp only [Good_guard, Good_withCom hinv o hp]
    intros; exact Good_ready ‹_› hp

theorem runEditCommission_good : Good (ReadyGood P o s price) (runEditCommission P o s b t price) := by
  simp only [runEditCommission]
  split
  · exact Good_error
  · simp only [Good_guard, Good_withCom hinv o hp]
    intros; exact Good_ready ‹_› hp

theorem runCreateMultisig_good : Good (ReadyGood P o s price) (runCreateMultisig P o s t price) := by
  simp only [runCreateMultisig]
  split
  · exact Good_error
  · simp only [Good_guard, Good_withCom hinv o hp]
    intros; exact Good_ready ‹_› hp

theorem runEditMultisig_good : Good (ReadyGood P o s price) (runEditMultisig P o s t price) := by
  simp only [runEditMultisig, Good_guard]
  intros
  split
  · exact Good_error
  · simp only [Good_guard, Good_withCom hinv o hp]
    intros; exact Good_ready ‹_› hp

theorem runSetHalt_good : Good (ReadyGood P o s price) (runSetHalt P o s b t price) := by
  simp only [runSetHalt, Good_guard]
  intros
  split
  · exact Good_error
  · simp only [Good_guard, Good_withCom hinv o hp]
    intros; exact Good_ready ‹_› hp

theorem runVoteCommission_good : Good (ReadyGood P o s price) (runVoteCommission P o s b t price) := by
  simp only [runVoteCommission, Good_guard]
  intros
  split
  · exact Good_error
  · simp only [Good_guard, Good_withCom hinv o hp]
    intros; exact Good_ready ‹_› hp

theorem runVoteUpdate_good : Good (ReadyGood P o s price) (runVoteUpdate P o s b t price) := by
  simp only [runVoteUpdate, Good_guard]
  intros
  split
  · exact Good_error
  · simp only [Good_guard, Good_withCom hinv o hp]
    intros; exact Good_ready ‹_› hp

theorem runCreatePool_good : Good (ReadyGood P o s price) (runCreatePool P o s t price) := by
  simp only [runCreatePool, Good_guard, Good_withCom hinv o hp]
  intros; exact Good_ready ‹_› hp

theorem runRemoveOrder_good : Good (ReadyGood P o s price) (runRemoveOrder P o s b t price) := by
  simp only [runRemoveOrder, Good_guard, Good_withCom hinv o hp]
  intros
  split
  · exact Good_error
  · simp only [Good_guard]
    intros
    split
    · exact Good_throw (fun w h => by cases h)
    · exact Good_ready ‹_› hp

end

end Minter
