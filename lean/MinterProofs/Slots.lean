import MinterProofs.Validators
/-
  `findSlot` is the scan of `recalculateStakes` (candidates.go) over the 1000 delegation slots of one candidate.  Everything
  about it is read off one step: past an occupied slot the scan goes on with a running best that is this slot or the one it
  had (`findSlotAux_cons_some`); a free slot ends it with `smallestStake = 0`.
-/
namespace Minter

theorem findSlotAux_cons_some (s : Stake) (t : Slots) (i : Nat) (best : Option (Nat × Int)) :
    ∃ b, findSlotAux (some s :: t) i best = findSlotAux t (i + 1) (some b) ∧ (b = (i, s.bip) ∨ best = some b) := by
  rcases best with _ | ⟨j, m⟩
  · exact ⟨_, rfl, .inl rfl⟩
  · rw [findSlotAux]; split
    · exact ⟨_, rfl, .inl rfl⟩
    · exact ⟨_, rfl, .inr rfl⟩

theorem findSlotAux_free (pre : List Stake) (rest : Slots) (i : Nat) (best : Option (Nat × Int)) :
    findSlotAux (pre.map some ++ none :: rest) i best = some (i + pre.length, 0) := by
  induction pre generalizing i best with
  | nil => cases best <;> rfl
  | cons s t ih =>
    obtain ⟨b, e, _⟩ := findSlotAux_cons_some s (t.map some ++ none :: rest) i best
    rw [List.map_cons, List.cons_append, e, ih, List.length_cons, Nat.add_right_comm, Nat.add_assoc]

theorem findSlotAux_some (slots : Slots) (i : Nat) (best : Option (Nat × Int)) (h : best = none → slots ≠ []) :
    ∃ r, findSlotAux slots i best = some r ∧ (best = some r ∨ r.1 < i + slots.length) := by
  induction slots generalizing i best with
  | nil =>
    cases best with
    | none => exact absurd rfl (h rfl)
    | some b => exact ⟨b, rfl, .inl rfl⟩
  | cons o t ih =>
    rw [List.length_cons]
    rcases o with _ | s
    · exact ⟨(i, 0), by cases best <;> rfl, .inr (by omega)⟩
    · obtain ⟨b', e, hb'⟩ := findSlotAux_cons_some s t i best
      obtain ⟨r, hr, hi⟩ := ih (i + 1) (some b') nofun
      refine ⟨r, e ▸ hr, ?_⟩
      rcases hi with hi | hi
      · cases hi
        exact hb'.elim (fun e => .inr (by rw [e]; omega)) .inl
      · exact .inr (by omega)

/-- `slots ≠ []` holds in the node: the array has `MaxDelegatorsPerCandidate` = 1000 slots. -/
theorem findSlot_some (slots : Slots) (h : slots ≠ []) : ∃ j m, findSlot slots = some (j, m) ∧ j < slots.length := by
  obtain ⟨r, hr, hi⟩ := findSlotAux_some slots 0 none fun _ => h
  exact ⟨r.1, r.2, hr, by simpa using hi.resolve_left nofun⟩

/-- Ties go to the earlier slot: the running best gives way only to a strictly smaller bip value
    (`smallestStake.Cmp(stake.BipValue) == 1` in `recalculateStakes`). -/
theorem findSlotAux_full (l : List Stake) (i : Nat) (b r : Nat × Int) (h : findSlotAux (l.map some) i (some b) = some r) :
    r.2 ≤ b.2 ∧ (∀ s ∈ l, r.2 ≤ s.bip) ∧
    (r = b ∨ r.2 < b.2 ∧ ∃ k s, l[k]? = some s ∧ r.1 = i + k ∧ s.bip = r.2 ∧ ∀ x ∈ l.take k, r.2 < x.bip) := by
  induction l generalizing i b with
  | nil => cases h; exact ⟨Int.le_refl _, nofun, .inl rfl⟩
  | cons s t ih =>
    obtain ⟨bj, bm⟩ := b
    rw [List.map_cons, findSlotAux] at h
    split at h
    · next hgt =>
      obtain ⟨h1, h2, h3⟩ := ih _ _ h
      have hlt : r.2 < bm := Int.lt_of_le_of_lt h1 hgt
      refine ⟨Int.le_of_lt hlt, List.forall_mem_cons.mpr ⟨h1, h2⟩, .inr ⟨hlt, ?_⟩⟩
      rcases h3 with rfl | ⟨hlt', k, s0, hk, hj, hb, hfirst⟩
      · exact ⟨0, s, rfl, rfl, rfl, nofun⟩
      · exact ⟨k + 1, s0, hk, by omega, hb, List.forall_mem_cons.mpr ⟨hlt', hfirst⟩⟩
    · next hle =>
      obtain ⟨h1, h2, h3⟩ := ih _ _ h
      have hs : r.2 ≤ s.bip := Int.le_trans h1 (Int.not_lt.mp hle)
      refine ⟨h1, List.forall_mem_cons.mpr ⟨hs, h2⟩, h3.imp_right ?_⟩
      rintro ⟨hlt, k, s0, hk, hj, hb, hfirst⟩
      exact ⟨hlt, k + 1, s0, hk, by omega, hb, List.forall_mem_cons.mpr ⟨Int.lt_of_lt_of_le hlt (Int.not_lt.mp hle), hfirst⟩⟩

theorem findSlot_full (l : List Stake) (j : Nat) (m : Int) (h : findSlot (l.map some) = some (j, m)) :
    ∃ s, l[j]? = some s ∧ s.bip = m ∧ (∀ x ∈ l, m ≤ x.bip) ∧ (∀ x ∈ l.take j, m < x.bip) := by
  rcases l with _ | ⟨s, t⟩
  · cases h
  · obtain ⟨h1, h2, h3⟩ := findSlotAux_full t 1 (0, s.bip) (j, m) h
    rcases h3 with h3 | ⟨hlt, k, s0, hk, rfl, hb, hfirst⟩
    · cases h3; exact ⟨s, rfl, rfl, List.forall_mem_cons.mpr ⟨Int.le_refl _, h2⟩, nofun⟩
    · rw [Nat.add_comm]
      exact ⟨s0, hk, hb, List.forall_mem_cons.mpr ⟨h1, h2⟩, List.forall_mem_cons.mpr ⟨hlt, hfirst⟩⟩

def optHold (coin : Coin) (o : Option Stake) : Int := match o with | some s => stakeOf coin s | none => 0

def slotsHold (coin : Coin) (slots : Slots) : Int := sumBy (optHold coin) slots

end Minter
