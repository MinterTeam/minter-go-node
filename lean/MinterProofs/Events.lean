import MinterModel.Events
/-
  Lemmas for C24 (events store).  The store's Go maps are `Tbl` (a wrapper of `Std.HashMap`); everything below uses only
  `get?_set`, `len_set`, `get?_empty`, `len_empty`.

  Abstraction used by all proofs: each of the store's two id tables is described by a duplicate-free list, in order of first
  appearance: `ks` (validator keys: key `ks[i]` has id `i+1`; id 0 is "no key") and `as` (addresses: `as[i]` has id `i`).
  Both are instances of one notion, a table whose `i`-th value has id `o + i` (`lookup`, `CW` for the cache, `DW` for the disk).
-/
namespace Minter
namespace Ev

/-! ### `Tbl` interface -/

namespace Tbl
variable {β : Type} {t : Tbl β} {a : Nat} {b : β}

theorem get?_set (t : Tbl β) (a c : Nat) (b : β) : (t.set a b).get? c = if a = c then some b else t.get? c := by
  simp [get?, set, Std.HashMap.getElem?_insert]

theorem len_set (t : Tbl β) (a : Nat) (b : β) : (t.set a b).len = if (t.get? a).isSome then t.len else t.len + 1 := by
  simp [get?, set, len, Std.HashMap.size_insert]

@[simp] theorem get?_empty (a : Nat) : ({} : Tbl β).get? a = none := by
  simp [get?]

@[simp] theorem len_empty : ({} : Tbl β).len = 0 := by
  simp [len]

theorem get?_set_self (h : t.get? a = some b) (c : Nat) : (t.set a b).get? c = t.get? c := by
  rw [get?_set]
  split
  · subst c; exact h.symm
  · rfl

theorem len_set_self (h : t.get? a = some b) : (t.set a b).len = t.len := by
  rw [len_set, h]; rfl

end Tbl

/-! ### First-appearance lists -/

theorem nodup_concat {l : List Nat} {a : Nat} (hn : l.Nodup) (ha : a ∉ l) : (l ++ [a]).Nodup :=
  List.nodup_append.mpr ⟨hn, by simp, fun x hx y hy e => ha (List.mem_singleton.mp hy ▸ e ▸ hx)⟩

theorem addKey_of_mem {ks : List Nat} {k : Nat} (h : k ∈ ks) : addKey ks k = ks := if_pos h

theorem addKey_of_not_mem {ks : List Nat} {k : Nat} (h : k ∉ ks) : addKey ks k = ks ++ [k] := if_neg h

theorem addKey_prefix (ks : List Nat) (k : Nat) : ks <+: addKey ks k := by
  unfold addKey
  split
  · exact List.prefix_rfl
  · exact List.prefix_append ks [k]

theorem addKey_nodup {ks : List Nat} (k : Nat) (hn : ks.Nodup) : (addKey ks k).Nodup := by
  unfold addKey
  split
  · exact hn
  · exact nodup_concat hn ‹_›

theorem prefix_foldl {α β : Type} {f : List α → β → List α} (hf : ∀ a x, a <+: f a x) (l : List β) (a : List α) :
    a <+: l.foldl f a := by
  induction l generalizing a with
  | nil => exact List.prefix_rfl
  | cons x l ih => exact (hf a x).trans (ih _)

theorem foldl_addKey_prefix (l ks : List Nat) : ks <+: l.foldl addKey ks := prefix_foldl addKey_prefix l ks

theorem foldl_addKey_nodup (l : List Nat) {ks : List Nat} (hn : ks.Nodup) : (l.foldl addKey ks).Nodup := by
  induction l generalizing ks with
  | nil => exact hn
  | cons a l ih => exact ih (addKey_nodup a hn)

theorem aget_append {as t : List Nat} {id a : Nat} (h : as[id]? = some a) : (as ++ t)[id]? = some a := by
  rw [List.getElem?_append_left (List.getElem?_eq_some_iff.mp h).1]; exact h

/-! ### The entries of an id table -/

/-- Entry `id` of the id table whose `i`-th value, in order of first appearance, got id `o + i`: `o = 1` for validator keys
    (`uint16(len(idPubKey)) + 1`, id 0 is "no key"), `o = 0` for addresses (`uint32(len(addressID))`). -/
def lookup (o : Nat) (l : List Nat) (id : Nat) : Option Nat := if id < o then none else l[id - o]?

def kget (ks : List Nat) (id : Nat) : Option Nat := if id = 0 then none else ks[id - 1]?

theorem kget_eq (ks : List Nat) (id : Nat) : kget ks id = lookup 1 ks id := by
  unfold kget lookup
  cases id <;> simp

theorem aget_eq (as : List Nat) (id : Nat) : as[id]? = lookup 0 as id := by
  simp [lookup]

section
variable {o id v : Nat} {l : List Nat}

theorem lookup_eq_some : lookup o l id = some v ↔ ∃ i, id = o + i ∧ l[i]? = some v := by
  unfold lookup
  split
  · exact ⟨nofun, fun ⟨i, hi, _⟩ => absurd ‹id < o› (hi ▸ Nat.not_lt.mpr (Nat.le_add_right o i))⟩
  · exact ⟨fun h => ⟨id - o, (Nat.add_sub_cancel' (Nat.not_lt.mp ‹_›)).symm, h⟩,
      fun ⟨i, hi, h⟩ => by rw [hi, Nat.add_sub_cancel_left]; exact h⟩

theorem lookup_append (t : List Nat) (h : lookup o l id = some v) : lookup o (l ++ t) id = some v := by
  obtain ⟨i, hi, h⟩ := lookup_eq_some.mp h
  exact lookup_eq_some.mpr ⟨i, hi, aget_append h⟩

theorem lookup_mem (h : lookup o l id = some v) : v ∈ l := by
  obtain ⟨i, _, h⟩ := lookup_eq_some.mp h
  exact List.mem_iff_getElem?.mpr ⟨i, h⟩

theorem mem_lookup (o : Nat) (h : v ∈ l) : ∃ id, lookup o l id = some v := by
  obtain ⟨i, h⟩ := List.mem_iff_getElem?.mp h
  exact ⟨o + i, lookup_eq_some.mpr ⟨i, rfl, h⟩⟩

theorem lookup_of_lt (h1 : o ≤ id) (h2 : id < o + l.length) : ∃ v, lookup o l id = some v := by
  obtain ⟨i, rfl⟩ := Nat.exists_eq_add_of_le h1
  have hi := Nat.lt_of_add_lt_add_left h2
  exact ⟨l[i], lookup_eq_some.mpr ⟨i, rfl, List.getElem?_eq_getElem hi⟩⟩

theorem lookup_inj {i j : Nat} (hn : l.Nodup) (hi : lookup o l i = some v) (hj : lookup o l j = some v) : i = j := by
  obtain ⟨i', rfl, hi'⟩ := lookup_eq_some.mp hi
  obtain ⟨j', rfl, hj'⟩ := lookup_eq_some.mp hj
  rw [(List.getElem?_inj (List.getElem?_eq_some_iff.mp hi').1 hn).mp (hi'.trans hj'.symm)]

theorem lookup_length (o : Nat) (l : List Nat) : lookup o l (o + l.length) = none := by
  simp [lookup]

theorem lookup_concat (o : Nat) (l : List Nat) (v id : Nat) :
    lookup o (l ++ [v]) id = if o + l.length = id then some v else lookup o l id := by
  unfold lookup
  by_cases h : o + l.length = id
  · subst h
    rw [if_pos rfl, if_neg (Nat.not_lt.mpr (Nat.le_add_right o _)), Nat.add_sub_cancel_left, List.getElem?_concat_length]
  · rw [if_neg h]
    split
    · rfl
    · rw [List.getElem?_append]
      split
      · rfl
      · rw [List.getElem?_eq_none (Nat.not_lt.mp ‹¬id - o < l.length›), List.getElem?_eq_none]
        show 1 ≤ id - o - l.length
        omega

end

/-! ### What "a cache half / a disk table describes `l`" means -/

/-- The two directions `fwd` (id to value) and `bwd` (value to id) of an id cache hold exactly the values of `l`,
    the `i`-th of them under id `o + i`. -/
structure CW (fwd bwd : Tbl Nat) (o : Nat) (l : List Nat) : Prop where
  flen : fwd.len = l.length
  blen : bwd.len = l.length
  get : ∀ id, fwd.get? id = lookup o l id
  rev : ∀ v id, bwd.get? v = some id ↔ lookup o l id = some v

/-- The rows `tbl` and the persisted count `cnt` of an id table on disk hold the distinct values of `l`, the `i`-th under id `o + i`
    (rows beyond the count may hold anything). -/
structure DW (tbl : Tbl Nat) (cnt : Option Nat) (o : Nat) (l : List Nat) : Prop where
  nodup : l.Nodup
  count : cnt = if l = [] then none else some l.length
  get : ∀ id v, lookup o l id = some v → tbl.get? id = some v

section
variable {fwd bwd tbl : Tbl Nat} {cnt : Option Nat} {o : Nat} {l : List Nat}

theorem CW.empty (o : Nat) : CW {} {} o [] :=
  ⟨Tbl.len_empty, Tbl.len_empty, fun id => by simp [lookup], fun v id => by simp [lookup]⟩

theorem CW.mem (h : CW fwd bwd o l) {v id : Nat} (hq : bwd.get? v = some id) : v ∈ l :=
  lookup_mem ((h.rev v id).mp hq)

theorem CW.get?_eq_none (h : CW fwd bwd o l) {v : Nat} : bwd.get? v = none ↔ v ∉ l := by
  rw [Option.eq_none_iff_forall_ne_some]
  exact ⟨fun hq hm => let ⟨id, hid⟩ := mem_lookup o hm; hq id ((h.rev v id).mpr hid), fun hv id hq => hv (h.mem hq)⟩

theorem CW.insert_new (h : CW fwd bwd o l) {v : Nat} (hv : v ∉ l) :
    CW (fwd.set (o + l.length) v) (bwd.set v (o + l.length)) o (l ++ [v]) := by
  have hf : fwd.get? (o + l.length) = none := by rw [h.get, lookup_length]
  have hb := h.get?_eq_none.mpr hv
  refine ⟨by simp [Tbl.len_set, hf, h.flen], by simp [Tbl.len_set, hb, h.blen], fun id => ?_, fun v' id => ?_⟩
  · rw [Tbl.get?_set, lookup_concat, h.get]
  · rw [Tbl.get?_set, lookup_concat]
    by_cases e : v = v'
    · subst e
      rw [if_pos rfl]
      constructor
      · intro hh; rw [if_pos (Option.some.inj hh)]
      · intro hh
        split at hh
        · rw [‹o + l.length = id›]
        · exact absurd (lookup_mem hh) hv
    · rw [if_neg e, h.rev]
      split
      · subst id; rw [lookup_length]; exact ⟨nofun, fun hh => absurd (Option.some.inj hh) e⟩
      · rfl

theorem CW.insert_again (h : CW fwd bwd o l) {i v : Nat} (hi : lookup o l i = some v) :
    CW (fwd.set i v) (bwd.set v i) o l :=
  have hf : fwd.get? i = some v := (h.get i).trans hi
  have hb : bwd.get? v = some i := (h.rev v i).mpr hi
  ⟨(Tbl.len_set_self hf).trans h.flen, (Tbl.len_set_self hb).trans h.blen,
    fun id => (Tbl.get?_set_self hf id).trans (h.get id), fun v' id => Tbl.get?_set_self hb v' ▸ h.rev v' id⟩

theorem CW.inj (h : CW fwd bwd o l) (hn : l.Nodup) :
    (∀ i j v, fwd.get? i = some v → fwd.get? j = some v → i = j) ∧
    (∀ v i, bwd.get? v = some i ↔ fwd.get? i = some v) :=
  ⟨fun i j _ hi hj => lookup_inj hn (h.get i ▸ hi) (h.get j ▸ hj), fun v i => h.get i ▸ h.rev v i⟩

theorem DW.empty (tbl : Tbl Nat) (o : Nat) : DW tbl none o [] :=
  ⟨.nil, rfl, fun id _ h => by simp [lookup] at h⟩

theorem DW.insert (h : DW tbl cnt o l) {v : Nat} (hv : v ∉ l) :
    DW (tbl.set (o + l.length) v) (some (l.length + 1)) o (l ++ [v]) := by
  refine ⟨nodup_concat h.nodup hv, by simp, fun id v' h' => ?_⟩
  rw [lookup_concat] at h'
  rw [Tbl.get?_set]
  split
  · rwa [if_pos ‹_›] at h'
  · rw [if_neg ‹_›] at h'; exact h.get id v' h'

theorem DW.inj (h : DW tbl cnt o l) {c i j : Nat} (hc : cnt = some c) (hi : o ≤ i) (hi' : i < o + c)
    (hj : o ≤ j) (hj' : j < o + c) (e : tbl.get? i = tbl.get? j) : i = j := by
  rw [h.count] at hc
  split at hc
  · cases hc
  · cases hc
    obtain ⟨v, hv⟩ := lookup_of_lt hi hi'
    obtain ⟨w, hw⟩ := lookup_of_lt hj hj'
    rw [h.get _ _ hv, h.get _ _ hw] at e
    exact lookup_inj h.nodup hv (e ▸ hw)

end

/-! ### Records: what they expand to, when the tables are described by `ks` / `as` -/

def expandA (ks as : List Nat) : Rec → Option Event
  | .reward role aid amount pid forCoin =>
    match kget ks pid with
    | none => none
    | some pk => some (.reward role (as[aid]?.getD 0) (Int.ofNat amount) pk forCoin)
  | .slash aid amount coin pid =>
    match kget ks pid with
    | none => none
    | some pk => some (.slash (as[aid]?.getD 0) (Int.ofNat amount) coin pk)
  | .kick aid amount coin pid =>
    match kget ks pid with
    | none => none
    | some pk => some (.kick (as[aid]?.getD 0) (Int.ofNat amount) coin pk)
  | .unbond aid amount coin pid => some (.unbond (as[aid]?.getD 0) (Int.ofNat amount) coin (kget ks pid))
  | .jail pid ju => some (.jail ((kget ks pid).getD 0) ju)
  | .orderExpired aid amount coin id => some (.orderExpired id (as[aid]?.getD 0) coin (Int.ofNat amount))
  | .unlock aid amount coin => some (.unlock (as[aid]?.getD 0) (Int.ofNat amount) coin)
  | .move aid amount coin fid tid =>
    some (.move (as[aid]?.getD 0) (Int.ofNat amount) coin ((kget ks fid).getD 0) ((kget ks tid).getD 0))
  | .raw e => some e

def expandAllA (ks as : List Nat) : List Rec → Option (List Event)
  | [] => some []
  | r :: rs =>
    match expandA ks as r with
    | none => none
    | some e => match expandAllA ks as rs with
      | none => none
      | some es => some (e :: es)

theorem expand_eq {c : Cache} {ks as : List Nat} (pw : CW c.idPub c.pubId 1 ks) (aw : CW c.idAddr c.addrId 0 as) (r : Rec) :
    expand c r = expandA ks as r := by
  cases r <;> simp only [expand, expandA, pw.get, aw.get, ← kget_eq, ← aget_eq] <;> rfl

theorem expandAll_eq {c : Cache} {ks as : List Nat} (pw : CW c.idPub c.pubId 1 ks) (aw : CW c.idAddr c.addrId 0 as)
    (rs : List Rec) : expandAll c rs = expandAllA ks as rs := by
  induction rs with
  | nil => rfl
  | cons r rs ih => simp only [expandAll, expandAllA, expand_eq pw aw, ih]; rfl

/-- 0 = "no key" is allowed for an unbond (`UnbondEvent.ValidatorPubKey` is a pointer). -/
def RecValid (ks as : List Nat) : Rec → Prop
  | .reward _ aid _ pid _ => (kget ks pid).isSome ∧ aid < as.length
  | .slash aid _ _ pid => (kget ks pid).isSome ∧ aid < as.length
  | .kick aid _ _ pid => (kget ks pid).isSome ∧ aid < as.length
  | .jail pid _ => (kget ks pid).isSome
  | .unbond aid _ _ pid => (pid = 0 ∨ (kget ks pid).isSome) ∧ aid < as.length
  | .unlock aid _ _ => aid < as.length
  | .orderExpired aid _ _ _ => aid < as.length
  | .move aid _ _ f t => (kget ks f).isSome ∧ (kget ks t).isSome ∧ aid < as.length
  | .raw _ => True

theorem kget_zero (ks : List Nat) : kget ks 0 = none := rfl

theorem kget_append_stable {ks : List Nat} {id : Nat} (h : id = 0 ∨ (kget ks id).isSome) (t : List Nat) :
    kget (ks ++ t) id = kget ks id := by
  rcases h with rfl | h
  · rfl
  · cases hk : kget ks id with
    | none => rw [hk] at h; cases h
    | some k => rw [kget_eq] at hk ⊢; exact lookup_append t hk

theorem kget_append_isSome {ks t : List Nat} {id : Nat} (h : (kget ks id).isSome) : kget (ks ++ t) id = kget ks id :=
  kget_append_stable (.inr h) t

theorem RecValid.stable {ks as : List Nat} {r : Rec} (h : RecValid ks as r) (t u : List Nat) :
    expandA (ks ++ t) (as ++ u) r = expandA ks as r := by
  cases r <;> simp only [expandA]
  case reward | slash | kick => rw [kget_append_isSome h.1, List.getElem?_append_left h.2]
  case jail => rw [kget_append_isSome h]
  case unbond => rw [kget_append_stable h.1, List.getElem?_append_left h.2]
  case unlock | orderExpired => rw [List.getElem?_append_left h]
  case move => rw [kget_append_isSome h.1, kget_append_isSome h.2.1, List.getElem?_append_left h.2.2]

section
variable {st : EvStore} {ks ks' as as' : List Nat} {r : Rec}

/-- The record keeps its meaning when the tables grow; by `RecValid.stable` this holds of a record whose ids the tables know. -/
def Stable (ks as : List Nat) (r : Rec) : Prop := ∀ t u, expandA (ks ++ t) (as ++ u) r = expandA ks as r

theorem Stable.eq (h : Stable ks as r) (hk : ks <+: ks') (ha : as <+: as') : expandA ks' as' r = expandA ks as r := by
  obtain ⟨t, rfl⟩ := hk
  obtain ⟨u, rfl⟩ := ha
  exact h t u

theorem Stable.mono (h : Stable ks as r) (hk : ks <+: ks') (ha : as <+: as') : Stable ks' as' r := fun t u =>
  (h.eq (hk.trans (List.prefix_append ks' t)) (ha.trans (List.prefix_append as' u))).trans (h.eq hk ha).symm

theorem expandAllA_stable {rs : List Rec} (h : ∀ r ∈ rs, Stable ks as r) (hk : ks <+: ks') (ha : as <+: as') :
    expandAllA ks' as' rs = expandAllA ks as rs := by
  induction rs with
  | nil => rfl
  | cons r rs ih =>
    simp only [expandAllA, (h r List.mem_cons_self).eq hk ha, ih (fun r hr => h r (List.mem_cons_of_mem _ hr))]

/-! ### The whole store; interning a key or an address -/

/-- The store is sound for the keys `ks` and addresses `as` interned so far: both caches and both disk tables are
  bijections onto id ranges (`CW`, `DW`), and cache and disk agree. -/
structure Good (st : EvStore) (ks as : List Nat) : Prop where
  pw : CW st.cache.idPub st.cache.pubId 1 ks
  aw : CW st.cache.idAddr st.cache.addrId 0 as
  dp : DW st.disk.pk st.disk.pkCount 1 ks
  da : DW st.disk.ad st.disk.adCount 0 as

theorem mod_pkMod {n : Nat} (h : n ≤ 65535) : n % pkMod = n := Nat.mod_eq_of_lt (Nat.lt_succ_of_le h)

theorem mod_adMod {n : Nat} (h : n ≤ 4294967295) : n % adMod = n := Nat.mod_eq_of_lt (Nat.lt_succ_of_le h)

theorem savePubKey_found {k id : Nat} (h : st.cache.pubId.get? k = some id) : savePubKey st (some k) = (st, id) := by
  simp only [savePubKey, h]

theorem savePubKey_new {k : Nat} (h : st.cache.pubId.get? k = none) :
    savePubKey st (some k) =
      (let id := (st.cache.idPub.len % pkMod + 1) % pkMod
       let c := st.cache.cachePubKey id k
       ({ disk := { st.disk with pk := st.disk.pk.set id k, pkCount := some (c.idPub.len % pkMod) }, cache := c }, id)) := by
  simp only [savePubKey, h]

theorem saveAddress_found {a id : Nat} (h : st.cache.addrId.get? a = some id) : saveAddress st a = (st, id) := by
  simp only [saveAddress, h]

theorem saveAddress_new {a : Nat} (h : st.cache.addrId.get? a = none) :
    saveAddress st a =
      (let id := st.cache.addrId.len % adMod
       let c := st.cache.cacheAddress id a
       ({ disk := { st.disk with ad := st.disk.ad.set id a, adCount := some (c.addrId.len % adMod) }, cache := c }, id)) := by
  simp only [saveAddress, h]

theorem savePubKey_spec (g : Good st ks as) (k : Nat)
    (hb : (addKey ks k).length ≤ 65535) :
    ∃ st' id, savePubKey st (some k) = (st', id) ∧ Good st' (addKey ks k) as ∧
      st'.disk.blocks = st.disk.blocks ∧ kget (addKey ks k) id = some k := by
  cases hq : st.cache.pubId.get? k with
  | some id =>
    rw [addKey_of_mem (g.pw.mem hq)]
    exact ⟨st, id, savePubKey_found hq, g, rfl, (kget_eq ks id).trans ((g.pw.rev k id).mp hq)⟩
  | none =>
    have hk := g.pw.get?_eq_none.mp hq
    rw [addKey_of_not_mem hk] at hb ⊢
    rw [List.length_append, List.length_singleton] at hb
    have pw' := g.pw.insert_new hk
    have hid : (st.cache.idPub.len % pkMod + 1) % pkMod = 1 + ks.length := by
      rw [g.pw.flen, mod_pkMod (Nat.le_of_succ_le hb), mod_pkMod hb, Nat.add_comm]
    have hc : (st.cache.idPub.set (1 + ks.length) k).len % pkMod = ks.length + 1 := by
      rw [pw'.flen, List.length_append, List.length_singleton, mod_pkMod hb]
    refine ⟨_, _, by simp only [savePubKey_new hq, hid, Cache.cachePubKey, hc]; rfl, ?_, ?_, ?_⟩
    · exact ⟨pw', g.aw, g.dp.insert hk, g.da⟩
    · rfl
    · rw [kget_eq, lookup_concat, if_pos rfl]

theorem saveAddress_spec (g : Good st ks as) (a : Nat)
    (hb : (addKey as a).length ≤ 4294967295) :
    ∃ st' id, saveAddress st a = (st', id) ∧ Good st' ks (addKey as a) ∧
      st'.disk.blocks = st.disk.blocks ∧ (addKey as a)[id]? = some a := by
  cases hq : st.cache.addrId.get? a with
  | some id =>
    rw [addKey_of_mem (g.aw.mem hq)]
    exact ⟨st, id, saveAddress_found hq, g, rfl, (aget_eq as id).trans ((g.aw.rev a id).mp hq)⟩
  | none =>
    have ha := g.aw.get?_eq_none.mp hq
    rw [addKey_of_not_mem ha] at hb ⊢
    rw [List.length_append, List.length_singleton] at hb
    have aw' := g.aw.insert_new ha
    have hid : st.cache.addrId.len % adMod = 0 + as.length := by
      rw [g.aw.blen, mod_adMod (Nat.le_of_succ_le hb), Nat.zero_add]
    have hc : (st.cache.addrId.set a (0 + as.length)).len % adMod = as.length + 1 := by
      rw [aw'.blen, List.length_append, List.length_singleton, mod_adMod hb]
    refine ⟨_, _, by simp only [saveAddress_new hq, hid, Cache.cacheAddress, hc]; rfl, ?_, ?_, ?_⟩
    · exact ⟨g.pw, aw', g.dp, g.da.insert ha⟩
    · rfl
    · rw [aget_eq, lookup_concat, if_pos rfl]

/-! ### `loadCache` -/

section
variable {C : Type} {fwd bwd : C → Tbl Nat} {put : C → Nat → Nat → C} {o : Nat}

/-- Reading the rows `o + pre.length, …` of the disk table `d` into a cache half that holds `pre`, or already all of `pre ++ suf`
    (the loops of `loadPubKeys` and `loadAddresses`; `put` is `cachePubKey` or `cacheAddress`). -/
theorem CW.foldl_load (hput : ∀ c i v, fwd (put c i v) = (fwd c).set i v ∧ bwd (put c i v) = (bwd c).set v i)
    (d : Tbl Nat) (suf : List Nat) : ∀ (pre : List Nat) (c : C), (pre ++ suf).Nodup →
    CW (fwd c) (bwd c) o pre ∨ CW (fwd c) (bwd c) o (pre ++ suf) →
    (∀ id v, lookup o (pre ++ suf) id = some v → d.get? id = some v) → ∀ {c'},
    (List.range' (o + pre.length) suf.length).foldl (fun c id => put c id ((d.get? id).getD 0)) c = c' →
    CW (fwd c') (bwd c') o (pre ++ suf) := by
  induction suf with
  | nil => intro pre c _ h _ c' e; subst e; simpa using h
  | cons v suf ih =>
    intro pre c hn h hd c' e
    have hl : lookup o (pre ++ v :: suf) (o + pre.length) = some v := lookup_eq_some.mpr ⟨pre.length, rfl, by simp⟩
    have hnot : v ∉ pre := fun hm => (List.nodup_append.mp hn).2.2 v hm v (by simp) rfl
    have e' : pre ++ v :: suf = (pre ++ [v]) ++ suf := by simp
    rw [e'] at hn hd hl h ⊢
    refine ih (pre ++ [v]) (put c (o + pre.length) v) hn ?_ hd ?_
    · rw [(hput _ _ _).1, (hput _ _ _).2]; exact h.imp (·.insert_new hnot) (·.insert_again hl)
    · simpa [List.range'_succ, hd _ _ hl, Nat.add_assoc] using e

theorem foldl_frame {β : Type} (p : C → β) {f : C → Nat → C} (l : List Nat) (c : C) (hf : ∀ c i, p (f c i) = p c) :
    p (l.foldl f c) = p c := by
  induction l generalizing c with
  | nil => rfl
  | cons a l ih => exact (ih _).trans (hf c a)

end

theorem loadPubKeys_frame (st : EvStore) : (loadPubKeys st).disk = st.disk ∧
    (loadPubKeys st).cache.idAddr = st.cache.idAddr ∧ (loadPubKeys st).cache.addrId = st.cache.addrId := by
  unfold loadPubKeys
  split
  · exact ⟨rfl, rfl, rfl⟩
  · exact ⟨rfl, foldl_frame Cache.idAddr _ _ (fun _ _ => rfl), foldl_frame Cache.addrId _ _ (fun _ _ => rfl)⟩

theorem loadAddresses_frame (st : EvStore) : (loadAddresses st).disk = st.disk ∧
    (loadAddresses st).cache.idPub = st.cache.idPub ∧ (loadAddresses st).cache.pubId = st.cache.pubId := by
  unfold loadAddresses
  split
  · exact ⟨rfl, rfl, rfl⟩
  · exact ⟨rfl, foldl_frame Cache.idPub _ _ (fun _ _ => rfl), foldl_frame Cache.pubId _ _ (fun _ _ => rfl)⟩

theorem loadCache_disk (st : EvStore) : (loadCache st).disk = st.disk := by
  unfold loadCache
  split
  · rw [(loadAddresses_frame _).1, (loadPubKeys_frame _).1]
  · rfl

/-- Beyond 65 534 keys `count+1` wraps in uint16 and the loop reads too few rows (F25). -/
theorem loadPubKeys_spec (dp : DW st.disk.pk st.disk.pkCount 1 ks)
    (pw : CW st.cache.idPub st.cache.pubId 1 [] ∨ CW st.cache.idPub st.cache.pubId 1 ks) (hk : ks.length ≤ 65534) :
    CW (loadPubKeys st).cache.idPub (loadPubKeys st).cache.pubId 1 ks := by
  by_cases hks : ks = []
  · simp only [loadPubKeys, dp.count, if_pos hks]; exact pw.elim (hks ▸ ·) id
  · simp only [loadPubKeys, dp.count, if_neg hks, mod_pkMod (Nat.succ_le_succ hk)]
    exact CW.foldl_load (put := Cache.cachePubKey) (fun _ _ _ => ⟨rfl, rfl⟩) st.disk.pk ks [] st.cache dp.nodup pw dp.get rfl

/-- `loadCache` tests `len(store.idPubKey)` only: while no key is cached it reloads addresses that are cached already,
    hence the second alternative of `aw`. -/
theorem loadAddresses_spec (da : DW st.disk.ad st.disk.adCount 0 as)
    (aw : CW st.cache.idAddr st.cache.addrId 0 [] ∨ CW st.cache.idAddr st.cache.addrId 0 as) :
    CW (loadAddresses st).cache.idAddr (loadAddresses st).cache.addrId 0 as := by
  by_cases has : as = []
  · simp only [loadAddresses, da.count, if_pos has]; exact aw.elim (has ▸ ·) id
  · simp only [loadAddresses, da.count, if_neg has, List.range_eq_range']
    exact CW.foldl_load (put := Cache.cacheAddress) (fun _ _ _ => ⟨rfl, rfl⟩) st.disk.ad as [] st.cache da.nodup aw da.get rfl

end

end Ev
end Minter
