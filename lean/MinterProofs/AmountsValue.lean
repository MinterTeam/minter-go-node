import MinterProofs.AmountsTypes
import MinterProofs.AmountsMoves
import MinterProofs.Props.C21
/-
  C02, transaction types that move value (ledger part): Send, Lock, DeclareCandidacy, Delegate — every commission route — and the
  balance checks the handlers share.
-/
namespace Minter

variable {P : Params} {o : Oracle} {s : State} {t : TxIn} {price : Int} {rd : Ready}

/-- The amount a handler lets the sender spend of `coin` next to the commission: what is left after the commission covers it. -/
theorem spend_after_fee (s s1 : State) (payer : Addr) (gas coin : Coin) (com : Com) (adj : Option PoolAdj) (v : Int)
    (hfr : FeeFrame s s1 payer gas com adj)
    (h : v + (if coin = gas then com.commission else 0) ≤ balanceOf s payer coin) : v ≤ balanceOf s1 payer coin := by
  have := hfr.bal payer coin
  omega

theorem addIfGas_eq (t : TxIn) (coin : Coin) (x extra : Int) : t.addIfGas coin x extra = if coin = t.gasCoin then x + extra else x := by
  unfold TxIn.addIfGas
  by_cases h : coin = t.gasCoin
  · simp [h]
  · simp [h, show ¬ t.gasCoin = coin from fun e => h e.symm]

/-! ### The balance checks

  The handlers check that the sender holds the commission `c` in the gas coin and the amount `v` it spends of `coin`, both at once when
  `coin` is the gas coin; they write this in three ways.  Each gives the commission for `Checked` and the bound `spend_after_fee` asks for. -/

/-- `gas ≠ coin → v ≤ balance coin`, and `c` (`+ v` when `coin` is the gas coin) `≤ balance gas`: Send, Lock, SellCoin, BuyCoin,
    RemoveLiquidity. -/
theorem funds_sum_in_gas {s : State} {t : TxIn} {coin : Coin} {c v : Int} (hv : 0 ≤ v)
    (h1 : ¬ (t.gasCoin != coin && decide (balanceOf s t.sender coin < v)) = true)
    (h2 : ¬ balanceOf s t.sender t.gasCoin < t.addIfGas coin c v) :
    c ≤ balanceOf s t.sender t.gasCoin ∧ v + (if coin = t.gasCoin then c else 0) ≤ balanceOf s t.sender coin := by
  rw [addIfGas_eq] at h2
  simp only [Bool.and_eq_true, bne_iff_ne, decide_eq_true_eq, not_and] at h1
  by_cases e : coin = t.gasCoin
  · subst e; simp only [if_true] at h2 ⊢; omega
  · have := h1 (Ne.symm e); simp only [e, if_false] at h2 ⊢; omega

/-- `c ≤ balance gas` and `v` (`+ c` when `coin` is the gas coin) `≤ balance coin`: BurnToken, CreateSwapPool, AddLiquidity, BuySwapPool. -/
theorem funds_sum_in_coin {s : State} {t : TxIn} {coin : Coin} {c v : Int}
    (h1 : ¬ balanceOf s t.sender t.gasCoin < c) (h2 : ¬ balanceOf s t.sender coin < t.addIfGas coin v c) :
    c ≤ balanceOf s t.sender t.gasCoin ∧ v + (if coin = t.gasCoin then c else 0) ≤ balanceOf s t.sender coin := by
  rw [addIfGas_eq] at h2
  omega

/-- `gas ≠ coin → c ≤ balance gas`, and `v` (`+ c` when `coin` is the gas coin) `≤ balance coin`: AddLimitOrder, SellSwapPool. -/
theorem funds_sum_in_coin' {s : State} {t : TxIn} {coin : Coin} {c v : Int} (hv : 0 ≤ v)
    (h1 : ¬ (t.gasCoin != coin && decide (balanceOf s t.sender t.gasCoin < c)) = true)
    (h2 : ¬ balanceOf s t.sender coin < t.addIfGas coin v c) :
    c ≤ balanceOf s t.sender t.gasCoin ∧ v + (if coin = t.gasCoin then c else 0) ≤ balanceOf s t.sender coin := by
  refine funds_sum_in_coin (fun hlt => ?_) h2
  rw [addIfGas_eq] at h2
  simp only [Bool.and_eq_true, bne_iff_ne, decide_eq_true_eq, not_and] at h1
  by_cases e : coin = t.gasCoin
  · subst e; omega
  · exact h1 (Ne.symm e) hlt

/-- `v ≤ balance coin`, `c ≤ balance gas`, and `v + c ≤ balance gas` when `coin` is the gas coin: DeclareCandidacy, Delegate. -/
theorem funds_three {s : State} {t : TxIn} {coin : Coin} {c v : Int}
    (h1 : ¬ balanceOf s t.sender coin < v) (h2 : ¬ balanceOf s t.sender t.gasCoin < c)
    (h3 : ¬ (coin == t.gasCoin && decide (balanceOf s t.sender t.gasCoin < v + c)) = true) :
    c ≤ balanceOf s t.sender t.gasCoin ∧ v + (if coin = t.gasCoin then c else 0) ≤ balanceOf s t.sender coin := by
  by_cases e : coin = t.gasCoin
  · subst e; simp only [beq_self_eq_true, Bool.true_and, decide_eq_true_eq, if_true] at h3 ⊢; omega
  · simp only [e, if_false]; omega

/-! ### Send (1) -/

theorem send_typed (hv : 0 ≤ t.int "d.Value")
    (h : runSend P o s t price = .ok (.ok rd)) : Checked P o s price rd ∧ BodyKeeps s rd := by
  simp only [runSend, guard_ready_iff, withCom_ready_iff, ready_iff] at h
  obtain ⟨-, com, hcom, h1, h2, rfl⟩ := h
  have hf := funds_sum_in_gas hv h1 h2
  refine ready_typed hcom hf.1 fun s1 adj hfr hok1 => ?_
  rw [planOf_single]
  exact transfer_safe s1 hok1 _ _ _ _ hv (spend_after_fee s s1 t.sender t.gasCoin _ com adj _ hfr hf.2)

/-! ### Lock (38) -/

theorem lock_typed {block : Nat} (hv : 0 ≤ t.int "d.Value")
    (h : runLock P o s block t price = .ok (.ok rd)) : Checked P o s price rd ∧ BodyKeeps s rd := by
  simp only [runLock, guard_ready_iff, withCom_ready_iff, ready_iff] at h
  obtain ⟨-, -, com, hcom, h1, h2, rfl⟩ := h
  have hf := funds_sum_in_gas hv h1 h2
  refine ready_typed hcom hf.1 fun s1 adj hfr hok1 => ?_
  rw [planOf_single]
  exact lock_safe s1 hok1 _ _ hv (spend_after_fee s s1 t.sender t.gasCoin _ com adj _ hfr hf.2)

/-! ### DeclareCandidacy (6) -/

theorem declare_typed {block : Nat} (hv : 0 ≤ t.int "d.Stake")
    (h : runDeclare P o s block t price = .ok (.ok rd)) : Checked P o s price rd ∧ BodyKeeps s rd := by
  simp only [runDeclare, guard_ready_iff] at h
  obtain ⟨-, -, -, -, -, h⟩ := h
  split at h
  · cases h
  · cases h
  · simp only [guard_ready_iff, withCom_ready_iff, ready_iff] at h
    obtain ⟨com, hcom, h1, h2, h3, rfl⟩ := h
    have hf := funds_three h1 h2 h3
    refine ready_typed hcom hf.1 fun s1 adj hfr hok1 => ?_
    rw [planOf_single]
    exact declare_safe s1 hok1 _ _ _ _ hv (spend_after_fee s s1 t.sender t.gasCoin _ com adj _ hfr hf.2)

/-! ### Delegate (7) -/

theorem delegate_typed (h : runDelegate P o s t price = .ok (.ok rd)) : Checked P o s price rd ∧ BodyKeeps s rd := by
  simp only [runDelegate, guard_ready_iff] at h
  obtain ⟨-, -, htot, h⟩ := h
  split at h
  · cases h
  split at h
  · cases h
  simp only [guard_ready_iff, withCom_ready_iff, ready_iff] at h
  obtain ⟨-, -, com, hcom, h2, h1, h3, rfl⟩ := h
  have hf := funds_three h1 h2 h3
  refine ready_typed hcom hf.1 fun s1 adj hfr hok1 => ?_
  rw [planOf_single]
  exact delegate_safe s1 hok1 _ _ _ _ _ (spend_after_fee s s1 t.sender t.gasCoin _ com adj _ hfr hf.2)
    (Int.le_trans (by decide : (0 : Int) ≤ 1) (Int.not_lt.mp htot))

end Minter
