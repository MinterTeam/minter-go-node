import MinterModel.Persist
/-
  The caches and dirty flags of `AppDB` are hidden behind `logical n` (pending value, else cached value, else the record on
  disk): while the caches are `Coherent`, every getter is a function of it (`observe_eq`), and every operation of a block
  acts on it alone, keeps coherence and leaves the disk untouched (`MemStep`, `memOp_ok`).
-/
namespace Minter
namespace Persist

def opL (l : Logical) : MemOp → Logical
  | .addBlockTime t => { l with times := some (takeLast 4 (l.times.getD [] ++ [t])) }
  | .setValidators f => { l with validators := some (f (l.validators.getD [])) }
  | .addVersion name h => { l with versions := some (l.versions.getD [] ++ [⟨name, h⟩]) }
  | .setEmission f => { l with emission := some (f l.emission) }
  | .setPrice f => { l with price := some (f l.price) }
  | _ => l

def runOpsL (l : Logical) : List MemOp → Logical
  | [] => l
  | o :: os => runOpsL (opL l o) os

def OpsOK (os : List MemOp) : Prop := ∀ o ∈ os, OpOK o

theorem opOK_of_mem {o : MemOp} {os : List MemOp} (h : ∀ x ∈ os, OpOK x) (ho : o ∈ os) : OpOK o := h o ho

theorem readEmission_ne_zero (o : Option Nat) : readEmission o ≠ some 0 := by
  rcases o with _ | _ | _ <;> simp [readEmission]

theorem readEmission_some {e : Nat} (h : e ≠ 0) : readEmission (some e) = some e := by
  cases e with
  | zero => exact absurd rfl h
  | succ _ => rfl

theorem readEmission_idem (o : Option Nat) : readEmission (readEmission o) = readEmission o := by
  rcases o with _ | _ | _ <;> rfl

theorem takeLast_append_ne_nil (l : List Nat) (t : Nat) : takeLast 4 (l ++ [t]) ≠ [] := by
  rw [takeLast, Ne, List.drop_eq_nil_iff, List.length_append, List.length_singleton]
  omega

theorem observe_eq (n : Node) (hc : Coherent n) : observe n = obsL (logical n) := by
  have h1 := hc.height
  have h2 := hc.start
  unfold observe obsL logical getLastHeight getStartHeight getLastBlockHash getValidators getLastBlockTimeDelta getVersions
    getEmission getPrice
  congr 1
  · by_cases h : n.mem.lastHeight = 0
    · simp [h]; cases n.disk.app.height <;> simp
    · simp [h, h1 h]
  · by_cases h : n.mem.startHeight = 0
    · simp [h]; cases n.disk.app.startHeight <;> simp
    · simp [h, h2 h]
  · cases n.mem.validators <;> simp
  · cases n.mem.lastTimeBlocks.isEmpty <;> simp
    cases n.disk.app.blockTimes <;> simp
  · cases n.mem.versions.isEmpty <;> simp
    cases n.disk.app.versions <;> simp
  · cases n.mem.emission <;> simp
    cases readEmission n.disk.app.emission <;> simp
  · cases n.mem.price <;> simp
    cases n.disk.app.price <;> simp

variable {n : Node} (hc : Coherent n)
include hc

theorem getLastHeight_fst : (getLastHeight n).1 = (logical n).height.getD 0 := congrArg Obs.infoHeight (observe_eq n hc)

theorem getStartHeight_fst : (getStartHeight n).1 = (logical n).startHeight.getD 0 :=
  congrArg Obs.startHeight (observe_eq n hc)

theorem getValidators_eq : getValidators n = (logical n).validators.getD [] := congrArg Obs.validators (observe_eq n hc)

theorem getEmission_fst : (getEmission n).1 = (logical n).emission := congrArg Obs.emission (observe_eq n hc)

theorem getPrice_fst : (getPrice n).1 = (logical n).price := congrArg Obs.price (observe_eq n hc)

theorem info_eq : info n = ((logical n).height.getD 0, (logical n).hash) :=
  congrArg (fun o => (o.infoHeight, o.infoHash)) (observe_eq n hc)

omit hc

/-- `times`: `SaveBlocksTime` has no dirty flag, `Commit` writes `lastTimeBlocks` back whether or not it was loaded; a cache
    in use must therefore stay in use, or the record would be overwritten with an empty list. -/
structure MemStep (n : Node) (l : Logical) (n' : Node) : Prop where
  disk : n'.disk = n.disk
  logical : logical n' = l
  coh : Coherent n'
  times : n.mem.lastTimeBlocks ≠ [] → n'.mem.lastTimeBlocks ≠ []

abbrev Loaded (n n' : Node) : Prop := MemStep n (logical n) n'

theorem MemStep.trans {a b c : Node} {l1 l2 : Logical} (h1 : MemStep a l1 b) (h2 : MemStep b l2 c) : MemStep a l2 c :=
  ⟨h2.disk.trans h1.disk, h2.logical, h2.coh, fun h => h2.times (h1.times h)⟩

theorem MemStep.to {a b : Node} {l l' : Logical} (h : MemStep a l b) (e : l = l') : MemStep a l' b := e ▸ h

theorem Loaded.trans {a b c : Node} (h1 : Loaded a b) (h2 : Loaded b c) : Loaded a c :=
  ⟨h2.disk.trans h1.disk, h2.logical.trans h1.logical, h2.coh, fun h => h2.times (h1.times h)⟩

include hc

theorem Loaded.refl : Loaded n n := ⟨rfl, rfl, hc, id⟩

theorem getLastHeight_loaded : Loaded n (getLastHeight n).2 := by
  unfold getLastHeight
  split
  · exact .refl hc
  · split
    · next hd => exact ⟨rfl, rfl, { hc with height := fun _ => hd }, id⟩
    · exact .refl hc

theorem getStartHeight_loaded : Loaded n (getStartHeight n).2 := by
  unfold getStartHeight
  split
  · exact .refl hc
  · split
    · next hd => exact ⟨rfl, rfl, { hc with start := fun _ => hd }, id⟩
    · exact .refl hc

theorem loadTimes_loaded : Loaded n (loadTimes n) ∧ (loadTimes n).mem.lastTimeBlocks = (logical n).times.getD [] := by
  unfold loadTimes logical
  cases hm : n.mem.lastTimeBlocks with
  | cons t ts => exact ⟨.refl hc, hm⟩
  | nil =>
    cases hd : n.disk.app.blockTimes with
    | none => exact ⟨.refl hc, hm⟩
    | some l => exact ⟨⟨rfl, by cases l <;> simp [Persist.logical, hm, hd], { hc with }, fun h => absurd hm h⟩, rfl⟩

omit hc in
theorem getLastBlockTimeDelta_snd : (getLastBlockTimeDelta n).2 = loadTimes n := by
  unfold getLastBlockTimeDelta loadTimes
  split
  · split <;> rfl
  · rfl

theorem getLastBlockTimeDelta_loaded : Loaded n (getLastBlockTimeDelta n).2 := by
  rw [getLastBlockTimeDelta_snd]; exact (loadTimes_loaded hc).1

theorem getVersions_loaded :
    Loaded n (getVersions n).2 ∧ (getVersions n).2.mem.versions = (logical n).versions.getD [] := by
  unfold getVersions logical
  cases hm : n.mem.versions with
  | cons t ts => exact ⟨.refl hc, hm⟩
  | nil =>
    cases hd : n.disk.app.versions with
    | none => exact ⟨.refl hc, hm⟩
    | some l =>
      have hdirty : n.mem.isDirtyVersions ≠ true := fun hD => hc.versionsD hD hm
      exact ⟨⟨rfl, by cases l <;> simp [Persist.logical, hm, hd],
        { hc with versions := fun _ _ => hd, versionsD := fun hD => absurd hD hdirty }, id⟩, rfl⟩

theorem getEmission_loaded : Loaded n (getEmission n).2 := by
  unfold getEmission
  split
  · exact .refl hc
  · next hm =>
    split
    · next e hd =>
      refine ⟨rfl, by simp [logical, hm, hd], { hc with emission := ?_, emissionD := ?_, emissionNZ := ?_ }, id⟩
      · rintro _ _ ⟨⟩; exact hd
      · rintro _ ⟨⟩
      · rintro ⟨⟩; exact readEmission_ne_zero _ hd
    · exact .refl hc

theorem getPrice_loaded : Loaded n (getPrice n).2 := by
  unfold getPrice
  split
  · exact .refl hc
  · next hm =>
    split
    · next p hd =>
      refine ⟨rfl, by simp [logical, hm, hd], { hc with price := ?_, priceD := ?_ }, id⟩
      · rintro _ _ ⟨⟩; exact hd
      · rintro _ ⟨⟩
    · exact .refl hc

theorem setTimes_ok {l : List Nat} (h : l ≠ []) :
    MemStep n { logical n with times := some l } { n with mem := { n.mem with lastTimeBlocks := l } } := by
  cases l with
  | nil => exact absurd rfl h
  | cons _ _ => exact ⟨rfl, rfl, { hc with }, fun _ => nofun⟩

theorem setValidators_ok (v : List Val) :
    MemStep n { logical n with validators := some v } { n with mem := { n.mem with validators := some v } } :=
  ⟨rfl, rfl, { hc with }, id⟩

theorem setVersions_ok {l : List Version} (h : l ≠ []) :
    MemStep n { logical n with versions := some l } { n with mem := { n.mem with versions := l, isDirtyVersions := true } } := by
  cases l with
  | nil => exact absurd rfl h
  | cons _ _ => exact ⟨rfl, rfl, { hc with versions := nofun, versionsD := fun _ => nofun }, id⟩

theorem setEmission_ok {e : Nat} (h : e ≠ 0) :
    MemStep n { logical n with emission := some e } { n with mem := { n.mem with emission := some e, isDirtyEmission := true } } :=
  ⟨rfl, rfl, { hc with emission := nofun, emissionD := fun _ => nofun, emissionNZ := fun x => h (Option.some.inj x) }, id⟩

theorem setPrice_ok (p : Price) :
    MemStep n { logical n with price := some p } { n with mem := { n.mem with price := some p, isDirtyPrice := true } } :=
  ⟨rfl, rfl, { hc with price := nofun, priceD := fun _ => nofun }, id⟩

omit hc

theorem memOp_ok (n : Node) (hc : Coherent n) (op : MemOp) (hok : OpOK op) : MemStep n (opL (logical n) op) (memOp n op) := by
  cases op with
  | qHeight => exact getLastHeight_loaded hc
  | qStart => exact getStartHeight_loaded hc
  | qDelta => exact getLastBlockTimeDelta_loaded hc
  | qVersions => exact (getVersions_loaded hc).1
  | qEmission => exact getEmission_loaded hc
  | qPrice => exact getPrice_loaded hc
  | addBlockTime t =>
    obtain ⟨h, ht⟩ := loadTimes_loaded hc
    exact (MemStep.trans h (setTimes_ok h.coh (takeLast_append_ne_nil (loadTimes n).mem.lastTimeBlocks t))).to
      (by rw [h.logical, ht]; rfl)
  | setValidators f => exact (setValidators_ok hc (f (getValidators n))).to (by rw [getValidators_eq hc]; rfl)
  | addVersion name ht =>
    obtain ⟨h, hv⟩ := getVersions_loaded hc
    exact (MemStep.trans h (setVersions_ok h.coh (l := (getVersions n).2.mem.versions ++ [⟨name, ht⟩]) (by simp))).to
      (by rw [h.logical, hv])
  | setEmission f =>
    have h := getEmission_loaded hc
    exact (MemStep.trans h (setEmission_ok h.coh (hok (getEmission n).1))).to (by rw [h.logical, getEmission_fst hc]; rfl)
  | setPrice f =>
    have h := getPrice_loaded hc
    exact (MemStep.trans h (setPrice_ok h.coh (f (getPrice n).1))).to (by rw [h.logical, getPrice_fst hc]; rfl)

theorem runOps_ok (os : List MemOp) (n : Node) (hc : Coherent n) (hok : OpsOK os) :
    MemStep n (runOpsL (logical n) os) (runOps n os) := by
  induction os generalizing n with
  | nil => exact Loaded.refl hc
  | cons o os ih =>
    have h1 := memOp_ok n hc o (hok o (by simp))
    have h2 := ih (memOp n o) h1.coh (fun x hx => hok x (by simp [hx]))
    rw [h1.logical] at h2
    exact h1.trans h2

end Persist
end Minter
