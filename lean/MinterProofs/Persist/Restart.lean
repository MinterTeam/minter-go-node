import MinterProofs.Persist.Commit
/-
  A restart is a `MemStep` from empty memory: it only loads (`restart_ok`).  A whole block acts on the logical content
  through `blockL` and on the tree through `treeAfter` (`runBlock_ok`), and nothing else of a node can be observed or
  matters to a later block.  That is the invariant `Sim`, on which C09 (restart), C10 (crash) and C29 (state sync) rest.
-/
namespace Minter
namespace Persist

theorem fresh_coherent (d : Disk) : Coherent { mem := {}, disk := d } := by
  refine ⟨?_, ?_, ?_, ?_, ?_, ?_, ?_, ?_, ?_⟩ <;> simp

theorem restart_ok {d : Disk} {n' : Node} (hr : restart d = some n') : MemStep ⟨{}, d⟩ (logicalOfDisk d) n' := by
  have l1 := getStartHeight_loaded (fresh_coherent d)
  have l2 := l1.trans (getLastHeight_loaded l1.coh)
  unfold restart at hr
  simp only at hr
  split at hr
  · cases hr; exact l1
  · split at hr
    · cases hr; exact l2.trans (getVersions_loaded l2.coh).1
    · cases hr

theorem restart_some (d : Disk) (h : Nat) (hh : d.app.height = some h) (ht : (treeLookup h d.tree).isSome) :
    ∃ r, restart d = some r ∧ MemStep ⟨{}, d⟩ (logicalOfDisk d) r ∧ info r = (h, d.app.hash) := by
  have l1 := getStartHeight_loaded (fresh_coherent d)
  have hv : (getLastHeight (getStartHeight { mem := {}, disk := d }).2).1 = h := by
    rw [getLastHeight_fst l1.coh, l1.logical]; exact congrArg (·.getD 0) hh
  have hr : ∃ r, restart d = some r := by
    unfold restart
    simp only [hv, ht, or_true, ↓reduceIte]
    split <;> exact ⟨_, rfl⟩
  obtain ⟨r, hr⟩ := hr
  have lr := restart_ok hr
  exact ⟨r, hr, lr, by rw [info_eq lr.coh, lr.logical]; exact congrArg (fun x => (x.getD 0, d.app.hash)) hh⟩

theorem opL_startHeight (l : Logical) (o : MemOp) : (opL l o).startHeight = l.startHeight := by
  cases o <;> rfl

theorem runOpsL_startHeight (os : List MemOp) : ∀ l : Logical, (runOpsL l os).startHeight = l.startHeight := by
  induction os with
  | nil => intro l; rfl
  | cons o os ih => intro l; exact (ih (opL l o)).trans (opL_startHeight l o)

theorem blockOps_ok {b : Block} (h : OpsOK b.ops) : OpsOK (blockOps b) := by
  intro o ho
  simp only [blockOps, List.mem_cons] at ho
  rcases ho with rfl | ho
  · trivial
  · exact h o ho

def blockL (l : Logical) (h : Nat) (b : Block) : Logical :=
  { runOpsL l (blockOps b) with hash := some b.hash, height := some h }

variable {cfg : Cfg} {n n' : Node} (hc : Coherent n) {h : Nat} {b : Block} (hok : OpsOK b.ops)
include hc hok

theorem blockOps_run : MemStep n (runOpsL (logical n) (blockOps b)) (runOps n (blockOps b)) ∧
    (runOps n (blockOps b)).mem.lastTimeBlocks ≠ [] ∧
    (getStartHeight (runOps n (blockOps b))).1 = (logical n).startHeight.getD 0 := by
  have h1 := runOps_ok (blockOps b) n hc (blockOps_ok hok)
  refine ⟨h1, ?_, by rw [getStartHeight_fst h1.coh, h1.logical, runOpsL_startHeight]⟩
  have h2 := memOp_ok n hc (.addBlockTime b.time) trivial
  exact (runOps_ok b.ops _ h2.coh hok).times (takeLast_append_ne_nil _ _)

theorem runBlock_ok (hr : runBlock cfg n h b = some n') :
    logical n' = blockL (logical n) h b ∧ Coherent n' ∧ Flushed n' ∧
    n'.disk.tree = treeAfter cfg ((logical n).startHeight.getD 0) n.disk.tree h b.hash ∧
    treeLookup h n'.disk.tree = some b.hash ∧ SaveOk n.disk.tree h b.hash := by
  obtain ⟨h1, ht, hs⟩ := blockOps_run hc hok
  obtain ⟨l2, c2, k2⟩ := commit_ok h1.coh ht hr
  obtain ⟨_, _, t3, t4⟩ := commit_some hr
  rw [hs, h1.disk] at t3
  rw [h1.disk] at t4
  exact ⟨by rw [l2, h1.logical]; rfl, c2, flushed_of_clean n' c2 k2, t3,
    by rw [t3, treeAfter_lookup _ _ t4, if_pos rfl], t4⟩

omit n' in
theorem runBlock_isSome (cfg : Cfg) (h : Nat) : (runBlock cfg n h b).isSome ↔ SaveOk n.disk.tree h b.hash := by
  rw [← (runOps_ok _ n hc (blockOps_ok hok)).disk, ← preWrites_isSome cfg _ h b.hash b.nEv]
  unfold runBlock commit commitWrites
  cases preWrites cfg (runOps n (blockOps b)) h b.hash b.nEv <;> rfl

omit hc hok

def TreeAgree (lo : Nat) (t1 t2 : Tree) : Prop := ∀ v, lo ≤ v → treeLookup v t1 = treeLookup v t2

/-- The invariant under which two nodes cannot be told apart, now or after any further blocks at heights `≥ lo`.
    Memory may differ: one of the two may have restarted.  The trees may differ below `lo`: a state-synced node has only
    the snapshot's version.  A commit at `h ≥ lo` may then prune on one side and not on the other, but the lookups of the
    trees it leaves do not depend on that (`treeAfter_lookup`). -/
structure Sim (lo : Nat) (a b : Node) : Prop where
  left : Coherent a
  right : Coherent b
  log : logical a = logical b
  tree : TreeAgree lo a.disk.tree b.disk.tree

theorem Sim.of_tree_eq {a b : Node} (ha : Coherent a) (hb : Coherent b) (hl : logical a = logical b)
    (ht : a.disk.tree = b.disk.tree) : Sim 0 a b :=
  ⟨ha, hb, hl, fun _ _ => by rw [ht]⟩

theorem Sim.obs {lo : Nat} {a b : Node} (s : Sim lo a b) : observe a = observe b := by
  rw [observe_eq a s.left, observe_eq b s.right, s.log]

end Persist
end Minter
