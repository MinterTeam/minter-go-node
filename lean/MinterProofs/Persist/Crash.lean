import MinterProofs.Persist.Restart
/-
  A crash inside `Commit` leaves a prefix of its write list on disk.  While the prefix ends before the `height` record the
  records are those of the previous block (up to `hash`) and the tree is in one of three states, before `SaveVersion`,
  after it, after the prune, abstracted as `TreeMid`: re-running the commit from any of them ends in the same tree.
  `Info` then reports `h - 1`, Tendermint delivers block `h` again and the node ends like the one that did not crash
  (`recover_mid`); after the last write nothing is replayed (`recover_complete`).  The prefixes in between are C10's.
-/
namespace Minter
namespace Persist

/-- A tree from which re-running the commit of block `h` ends in the same tree as from `t0`. -/
structure TreeMid (cfg : Cfg) (start : Nat) (t0 : Tree) (h : Nat) (hash : Hash) (t : Tree) : Prop where
  same : treeAfter cfg start t h hash = treeAfter cfg start t0 h hash
  look : SaveOk t h hash
  other : ∀ v, v ≠ h → (pruneCond cfg start t0 h → v ≠ h - cfg.keep - 1) → treeLookup v t = treeLookup v t0

theorem pruneCond_congr (cfg : Cfg) (start : Nat) {t t' : Tree} {h : Nat}
    (ht : ∀ v, v ≠ h → treeLookup v t = treeLookup v t') : pruneCond cfg start t h ↔ pruneCond cfg start t' h :=
  and_congr_right fun hs => by rw [ht _ (by omega)]

variable (cfg : Cfg) (start : Nat) (t0 : Tree) (h : Nat) (hash : Hash)
  (hl : SaveOk t0 h hash)
include hl

theorem treeMid_refl : TreeMid cfg start t0 h hash t0 := ⟨rfl, hl, fun _ _ _ => rfl⟩

theorem treeMid_ins : TreeMid cfg start t0 h hash (treeIns t0 h hash) := by
  have hlook := treeIns_lookup hl
  refine ⟨?_, Or.inr hlook, fun v hv _ => treeIns_lookup_ne t0 hash hv⟩
  simp only [treeAfter, pruneCond_congr cfg start (fun _ => treeIns_lookup_ne t0 hash), treeIns_of_some hlook]

theorem treeMid_after : TreeMid cfg start t0 h hash (treeAfter cfg start t0 h hash) := by
  unfold treeAfter
  split
  · next hc =>
    have hlook : treeLookup h (treeErase (h - cfg.keep - 1) (treeIns t0 h hash)) = some hash := by
      rw [treeLookup_erase_ne _ (by have := hc.1; omega)]; exact treeIns_lookup hl
    have hc' : ¬ pruneCond cfg start (treeErase (h - cfg.keep - 1) (treeIns t0 h hash)) h := fun hx => by
      have := hx.2; rw [treeLookup_erase_self] at this; cases this
    refine ⟨?_, Or.inr hlook, fun v hv hv2 => ?_⟩
    · rw [treeAfter, if_neg hc', treeIns_of_some hlook, treeAfter, if_pos hc]
    · rw [treeLookup_erase_ne _ (hv2 hc), treeIns_lookup_ne _ _ hv]
  · exact treeMid_ins cfg start t0 h hash hl

omit hl

theorem take_short {α : Type} (b : List α) (hb : b.length ≤ 1) (m : Nat) : b.take m = [] ∨ b.take m = b := by
  cases m with
  | zero => exact Or.inl rfl
  | succ m => exact Or.inr (List.take_of_length_le (by omega))

theorem take_two_short {α : Type} (a b : List α) (ha : a.length ≤ 1) (hb : b.length ≤ 1) (j : Nat) :
    (a ++ b).take j = [] ∨ (a ++ b).take j = a ∨ (a ++ b).take j = a ++ b := by
  cases j with
  | zero => exact Or.inl rfl
  | succ j =>
    rw [List.take_append, List.take_of_length_le (by omega)]
    rcases take_short b hb (j + 1 - a.length) with e | e <;> rw [e]
    · exact Or.inr (Or.inl (List.append_nil a))
    · exact Or.inr (Or.inr rfl)

variable {cfg : Cfg} {n : Node} {h : Nat} {hash : Hash} {nEv : Nat} {pre : List Write}
  (hp : preWrites cfg n h hash nEv = some pre)
include hp

theorem pre_prefix (k : Nat) : (applyWrites n.disk (pre.take k)).app = n.disk.app ∧
    TreeMid cfg (getStartHeight n).1 n.disk.tree h hash (applyWrites n.disk (pre.take k)).tree := by
  obtain ⟨tw, htw, rfl⟩ := preWrites_eq_some.mp hp
  obtain ⟨hl, hlen, ht⟩ := treeWrites_some htw
  obtain ⟨plen, hpr⟩ := pruneWrites_apply cfg (getStartHeight n).1 n.disk.tree h
  rw [List.take_append, applyWrites_append]
  have hev := applyWrites_events (fun w hw => eventWrites_all h nEv w (List.mem_of_mem_take hw)) n.disk
    (l := (eventWrites h nEv).take k)
  generalize applyWrites n.disk ((eventWrites h nEv).take k) = d1 at hev ⊢
  obtain ⟨a1, t1⟩ := ht d1 hev.2
  -- the prefix stops before, between or after the (at most one) `SaveVersion` and (at most one) `DeleteVersion` write
  rcases take_two_short tw _ hlen plen (k - (eventWrites h nEv).length) with e | e | e <;> rw [e]
  · exact ⟨hev.1, hev.2.symm ▸ treeMid_refl _ _ _ _ _ hl⟩
  · exact ⟨a1.trans hev.1, t1.symm ▸ treeMid_ins _ _ _ _ _ hl⟩
  · obtain ⟨a2, t2⟩ := hpr (applyWrites d1 tw)
    rw [applyWrites_append]
    refine ⟨a2.trans (a1.trans hev.1), ?_⟩
    rw [t2, t1]
    exact treeMid_after _ _ _ _ _ hl

theorem crash_prefix (rs : List Rec) (k : Nat) :
    (crashDisk n.disk (pre ++ rs.map Write.app) k).app = setRecs n.disk.app (rs.take (k - pre.length)) ∧
    TreeMid cfg (getStartHeight n).1 n.disk.tree h hash (crashDisk n.disk (pre ++ rs.map Write.app) k).tree ∧
    (pre.length ≤ k →
      (crashDisk n.disk (pre ++ rs.map Write.app) k).tree = treeAfter cfg (getStartHeight n).1 n.disk.tree h hash) := by
  obtain ⟨a1, t1⟩ := pre_prefix hp k
  rw [crashDisk, List.take_append, applyWrites_append, ← List.map_take, applyWrites_app]
  refine ⟨congrArg (setRecs · _) a1, t1, fun hk => ?_⟩
  rw [List.take_of_length_le hk]
  exact (preWrites_some hp).2.2

omit hp

theorem opL_hash (l : Logical) (x : Option Hash) (o : MemOp) :
    opL { l with hash := x } o = { opL l o with hash := x } := by
  cases o <;> rfl

theorem runOpsL_hash (os : List MemOp) : ∀ (l : Logical) (x : Option Hash),
    runOpsL { l with hash := x } os = { runOpsL l os with hash := x } := by
  induction os with
  | nil => intro l x; rfl
  | cons o os ih => intro l x; simp only [runOpsL]; rw [opL_hash, ih]

theorem blockL_hash (l : Logical) (x : Option Hash) (h : Nat) (b : Block) :
    blockL { l with hash := x } h b = blockL l h b := by
  unfold blockL; rw [runOpsL_hash]

/-- A disk on which the commit of block `h` was interrupted before the `height` record was written (`hash` is the one
    record written before it). -/
structure MidDisk (cfg : Cfg) (start : Nat) (d0 : Disk) (h : Nat) (hash : Hash) (d : Disk) : Prop where
  app : d.app = d0.app ∨ d.app = { d0.app with hash := some hash }
  tree : TreeMid cfg start d0.tree h hash d.tree

/-- The node between `Commit (h - 1)` and `BeginBlock h`.  `keep`: with `KeepLastStates = 0` the commit of `h` prunes
    version `h - 1`, which a restart before the `height` record still needs (`hprev` in `recover_mid`; `keep_zero_fatal`, C10). -/
structure Boundary (cfg : Cfg) (n0 : Node) (h : Nat) : Prop where
  coh : Coherent n0
  flushed : Flushed n0
  height : n0.disk.app.height = some (h - 1)
  hpos : 0 < h
  prev : (treeLookup (h - 1) n0.disk.tree).isSome
  keep : 0 < cfg.keep

variable {n0 nc : Node} {b : Block} (hok : OpsOK b.ops) (hr : runBlock cfg n0 h b = some nc)
  (d : Disk) (ws : List Write) (k : Nat)

theorem recover_same {r : Node} (hrs : restart (crashDisk d ws k) = some r) (hi : info r = (h, some b.hash)) :
    replayFrom (crashDisk d ws k) h b.hash = some [] ∧ recover cfg d ws k h b = some r := by
  have : replayFrom (crashDisk d ws k) h b.hash = some [] := by
    simp only [replayFrom, hrs, hi, Nat.lt_irrefl, ↓reduceIte]
  exact ⟨this, by simp only [recover, hrs, this]⟩

theorem recover_prev {r : Node} {x : Option Hash} (hpos : 0 < h) (hrs : restart (crashDisk d ws k) = some r)
    (hi : info r = (h - 1, x)) : recover cfg d ws k h b = runBlock cfg r h b := by
  have : replayFrom (crashDisk d ws k) h b.hash = some [h] := by
    simp only [replayFrom, hrs, hi, if_neg (Nat.not_lt.mpr (Nat.sub_le h 1)), if_neg (Nat.ne_of_lt (Nat.sub_one_lt_of_lt hpos)),
      Nat.sub_sub_self hpos]
    exact congrArg (fun x => some [x]) (Nat.sub_add_cancel hpos)
  simp only [recover, hrs, this, ↓reduceIte]

include hok hr

theorem recover_mid (hb : Boundary cfg n0 h)
    (hm : MidDisk cfg (getStartHeight (runOps n0 (blockOps b))).1 (runOps n0 (blockOps b)).disk h b.hash (crashDisk d ws k)) :
    ∃ rc, recover cfg d ws k h b = some rc ∧ logical rc = logical nc ∧ rc.disk.tree = nc.disk.tree ∧ Coherent rc := by
  obtain ⟨h1, _, hs⟩ := blockOps_run hb.coh hok
  rw [hs, h1.disk] at hm
  -- the height record is the old one, and its version is still in the tree
  have hdh : (crashDisk d ws k).app.height = some (h - 1) := by
    rcases hm.app with e | e <;> rw [e] <;> exact hb.height
  have hprev : (treeLookup (h - 1) (crashDisk d ws k).tree).isSome := by
    have hpos := hb.hpos
    have hkeep := hb.keep
    rw [hm.tree.other (h - 1) (by omega) (fun hc => by have := hc.1; omega)]; exact hb.prev
  obtain ⟨r, hrs, lr, hi⟩ := restart_some _ (h - 1) hdh hprev
  -- the restarted node shows the content before the block, up to the `hash` record, which the block overwrites
  have hlog : logical r = logical n0 ∨ logical r = { logical n0 with hash := some b.hash } := by
    rw [lr.logical, ← hb.flushed]
    unfold logicalOfDisk logical
    rcases hm.app with e | e <;> rw [e]
    · exact Or.inl rfl
    · exact Or.inr rfl
  obtain ⟨rc, hrc⟩ := Option.isSome_iff_exists.mp
    ((runBlock_isSome lr.coh hok cfg h).mpr (lr.disk ▸ hm.tree.look))
  obtain ⟨l1, c1, _, t1, _⟩ := runBlock_ok lr.coh hok hrc
  obtain ⟨l2, _, _, t2, _⟩ := runBlock_ok hb.coh hok hr
  refine ⟨rc, (recover_prev d ws k hb.hpos hrs hi).trans hrc, ?_, ?_, c1⟩
  · rw [l1, l2]
    rcases hlog with e | e <;> rw [e]
    rw [blockL_hash]
  · rw [t1, t2, lr.disk, ← hm.tree.same]
    rcases hlog with e | e <;> rw [e]

theorem recover_complete (hc : Coherent n0) (hd : crashDisk d ws k = nc.disk) :
    ∃ rc, recover cfg d ws k h b = some rc ∧ logical rc = logical nc ∧ rc.disk.tree = nc.disk.tree ∧ Coherent rc := by
  obtain ⟨hl, _, hf, _, hlook, _⟩ := runBlock_ok hc hok hr
  obtain ⟨r, hrs, lr, hi⟩ := restart_some nc.disk h (congrArg Logical.height hl) (by rw [hlook]; rfl)
  rw [show nc.disk.app.hash = some b.hash from congrArg Logical.hash hl] at hi
  rw [← hd] at hrs
  exact ⟨r, (recover_same d ws k hrs hi).2, lr.logical.trans hf, by rw [lr.disk], lr.coh⟩

end Persist
end Minter
