import MinterProofs.Persist.Basic
/-
  The write list of `Blockchain.Commit` is replaced by closed forms, `appAfter` for the eight records and `treeAfter` for
  the tree (`commit_some`).  On the logical content a commit then changes `hash` and `height` only (`commit_ok`): a dirty
  flag has its value (`Coherent`), so each record written is the logical value it already stood for.
-/
namespace Minter
namespace Persist

theorem setRecs_append (a : AppDisk) (l1 l2 : List Rec) : setRecs a (l1 ++ l2) = setRecs (setRecs a l1) l2 := by
  induction l1 generalizing a with
  | nil => rfl
  | cons r l ih => exact ih _

theorem setRecs_optHash (b : AppDisk) (o : Option Hash) :
    setRecs b (o.map Rec.hash).toList = { b with hash := o.or b.hash } := by cases o <;> rfl

theorem setRecs_optHeight (b : AppDisk) (o : Option Nat) :
    setRecs b (o.map Rec.height).toList = { b with height := o.or b.height } := by cases o <;> rfl

theorem setRecs_optStartHeight (b : AppDisk) (o : Option Nat) :
    setRecs b (o.map Rec.startHeight).toList = { b with startHeight := o.or b.startHeight } := by cases o <;> rfl

theorem setRecs_optValidators (b : AppDisk) (o : Option (List Val)) :
    setRecs b (o.map Rec.validators).toList = { b with validators := o.or b.validators } := by cases o <;> rfl

theorem setRecs_optBlockTimes (b : AppDisk) (o : Option (List Nat)) :
    setRecs b (o.map Rec.blockTimes).toList = { b with blockTimes := o.or b.blockTimes } := by cases o <;> rfl

theorem setRecs_optVersions (b : AppDisk) (o : Option (List Version)) :
    setRecs b (o.map Rec.versions).toList = { b with versions := o.or b.versions } := by cases o <;> rfl

theorem setRecs_optEmission (b : AppDisk) (o : Option Nat) :
    setRecs b (o.map Rec.emission).toList = { b with emission := o.or b.emission } := by cases o <;> rfl

theorem setRecs_optPrice (b : AppDisk) (o : Option Price) :
    setRecs b (o.map Rec.price).toList = { b with price := o.or b.price } := by cases o <;> rfl

theorem applyWrites_append (d : Disk) (a b : List Write) : applyWrites d (a ++ b) = applyWrites (applyWrites d a) b := by
  induction a generalizing d with
  | nil => rfl
  | cons w ws ih => simp only [List.cons_append, applyWrites]; exact ih _

theorem applyWrites_app (d : Disk) (rs : List Rec) :
    applyWrites d (rs.map Write.app) = { d with app := setRecs d.app rs } := by
  induction rs generalizing d with
  | nil => rfl
  | cons r rs ih => simp only [List.map_cons, applyWrites, applyWrite, setRecs]; rw [ih]

theorem eventWrites_all (h k : Nat) : ∀ w ∈ eventWrites h k, ∃ i, w = Write.events h i := by
  induction k with
  | zero => nofun
  | succ k ih =>
    intro w hw
    rcases List.mem_append.mp hw with hw | hw
    · exact ih w hw
    · exact ⟨k, List.mem_singleton.mp hw⟩

theorem applyWrites_events {l : List Write} {h : Nat} (hl : ∀ w ∈ l, ∃ i, w = Write.events h i) (d : Disk) :
    (applyWrites d l).app = d.app ∧ (applyWrites d l).tree = d.tree := by
  induction l generalizing d with
  | nil => exact ⟨rfl, rfl⟩
  | cons w l ih =>
    obtain ⟨i, rfl⟩ := hl w (by simp)
    exact ih (fun x hx => hl x (by simp [hx])) _

theorem treeLookup_erase_ne {v w : Nat} (t : Tree) (h : v ≠ w) : treeLookup v (treeErase w t) = treeLookup v t := by
  induction t with
  | nil => rfl
  | cons p t ih =>
    obtain ⟨x, y⟩ := p
    by_cases hx : x = w
    · have : ¬ w = v := fun e => h e.symm
      simp only [treeErase, hx, ↓reduceIte, treeLookup, ih, this]
    · simp only [treeErase, hx, ↓reduceIte, treeLookup, ih]

theorem treeLookup_erase_self (v : Nat) (t : Tree) : treeLookup v (treeErase v t) = none := by
  induction t with
  | nil => rfl
  | cons p t ih =>
    obtain ⟨x, y⟩ := p
    by_cases hx : x = v
    · simp only [treeErase, hx, ↓reduceIte]; exact ih
    · simp only [treeErase, hx, ↓reduceIte, treeLookup]; exact ih

/-- `SaveVersion` on the tree. -/
def treeIns (t : Tree) (h : Nat) (hash : Hash) : Tree :=
  match treeLookup h t with | none => (h, hash) :: t | some _ => t

/-- iavl `MutableTree.SaveVersion` accepts version `h` with root `hash`. -/
def SaveOk (t : Tree) (h : Nat) (hash : Hash) : Prop := treeLookup h t = none ∨ treeLookup h t = some hash

def pruneCond (cfg : Cfg) (start : Nat) (t : Tree) (h : Nat) : Prop :=
  start + cfg.keep + 1 ≤ h ∧ (treeLookup (h - cfg.keep - 1) t).isSome

instance (cfg : Cfg) (start : Nat) (t : Tree) (h : Nat) : Decidable (pruneCond cfg start t h) := by
  unfold pruneCond; infer_instance

def treeAfter (cfg : Cfg) (start : Nat) (t : Tree) (h : Nat) (hash : Hash) : Tree :=
  if pruneCond cfg start t h then treeErase (h - cfg.keep - 1) (treeIns t h hash) else treeIns t h hash

variable {cfg : Cfg} {start : Nat} {t : Tree} {h : Nat} {hash : Hash}

theorem treeIns_lookup_ne (t : Tree) (hash : Hash) {v : Nat} (hv : v ≠ h) :
    treeLookup v (treeIns t h hash) = treeLookup v t := by
  unfold treeIns
  split
  · have : ¬ h = v := fun e => hv e.symm
    simp only [treeLookup, this, ↓reduceIte]
  · rfl

theorem treeIns_lookup (hl : SaveOk t h hash) : treeLookup h (treeIns t h hash) = some hash := by
  unfold treeIns
  rcases hl with hl | hl <;> simp [hl, treeLookup]

theorem treeIns_of_some {x : Hash} (hx : treeLookup h t = some x) : treeIns t h hash = t := by
  unfold treeIns; simp [hx]

/-- The `isSome` conjunct of `pruneCond` is absent on the right: whether the pruned version existed makes no difference
    to any lookup. -/
theorem treeAfter_lookup (cfg : Cfg) (start : Nat) (hl : SaveOk t h hash) (v : Nat) :
    treeLookup v (treeAfter cfg start t h hash) =
      if v = h then some hash else if start + cfg.keep + 1 ≤ h ∧ v = h - cfg.keep - 1 then none else treeLookup v t := by
  unfold treeAfter
  by_cases hv : v = h
  · subst hv
    rw [if_pos rfl]
    split
    · next hc => rw [treeLookup_erase_ne _ (by have := hc.1; omega)]; exact treeIns_lookup hl
    · exact treeIns_lookup hl
  · rw [if_neg hv]
    by_cases hp : start + cfg.keep + 1 ≤ h ∧ v = h - cfg.keep - 1
    · rw [if_pos hp, hp.2]
      split
      · exact treeLookup_erase_self _ _
      · next hc =>
        rw [treeIns_lookup_ne _ _ (hp.2 ▸ hv)]
        cases hx : treeLookup (h - cfg.keep - 1) t with
        | none => rfl
        | some _ => exact absurd ⟨hp.1, by simp [hx]⟩ hc
    · rw [if_neg hp]
      split
      · next hc => rw [treeLookup_erase_ne _ (fun e => hp ⟨hc.1, e⟩), treeIns_lookup_ne _ _ hv]
      · exact treeIns_lookup_ne _ _ hv

def appAfter (a : AppDisk) (m : AppMem) (h : Nat) (hash : Hash) : AppDisk :=
  { hash := some hash, height := some h, startHeight := a.startHeight,
    validators := match m.validators with | some vs => some vs | none => a.validators,
    blockTimes := some m.lastTimeBlocks,
    versions := if m.isDirtyVersions then some m.versions else a.versions,
    emission := if m.isDirtyEmission then some (m.emission.getD 0) else a.emission,
    price := if m.isDirtyPrice then (match m.price with | some p => some p | none => a.price) else a.price }

theorem setRecs_iteVersions (b : AppDisk) (c : Bool) (x : List Version) :
    setRecs b (if c then [Rec.versions x] else []) = { b with versions := if c then some x else b.versions } := by
  cases c <;> rfl

theorem setRecs_iteEmission (b : AppDisk) (c : Bool) (x : Nat) :
    setRecs b (if c then [Rec.emission x] else []) = { b with emission := if c then some x else b.emission } := by
  cases c <;> rfl

theorem setRecs_appRecs (a : AppDisk) (m : AppMem) (h : Nat) (hash : Hash) :
    setRecs a (appRecs m h hash) = appAfter a m h hash := by
  unfold appRecs appAfter
  simp only [setRecs_append, setRecs_iteVersions, setRecs_iteEmission]
  cases m.validators <;> cases m.isDirtyPrice <;> cases m.price <;> rfl

theorem treeWrites_some {tw : List Write} (htw : treeWrites t h hash = some tw) :
    SaveOk t h hash ∧ tw.length ≤ 1 ∧
    ∀ d : Disk, d.tree = t → (applyWrites d tw).app = d.app ∧ (applyWrites d tw).tree = treeIns t h hash := by
  unfold treeWrites at htw
  unfold treeIns
  cases hl : treeLookup h t with
  | none =>
    rw [hl] at htw; cases htw
    exact ⟨Or.inl hl, Nat.le_refl _, fun d hd => ⟨rfl, by rw [← hd]; rfl⟩⟩
  | some old =>
    simp only [hl] at htw
    by_cases ho : old = hash
    · rw [if_pos ho] at htw; cases htw
      exact ⟨Or.inr (by rw [hl, ho]), Nat.zero_le _, fun d hd => ⟨rfl, hd⟩⟩
    · rw [if_neg ho] at htw; cases htw

theorem pruneWrites_apply (cfg : Cfg) (start : Nat) (t : Tree) (h : Nat) :
    (pruneWrites cfg start t h).length ≤ 1 ∧ ∀ d : Disk, (applyWrites d (pruneWrites cfg start t h)).app = d.app ∧
      (applyWrites d (pruneWrites cfg start t h)).tree =
        if pruneCond cfg start t h then treeErase (h - cfg.keep - 1) d.tree else d.tree := by
  by_cases hc : pruneCond cfg start t h
  · have : pruneWrites cfg start t h = [Write.treePrune (h - cfg.keep - 1)] := if_pos hc
    simp only [this, if_pos hc]
    exact ⟨Nat.le_refl _, fun d => ⟨rfl, rfl⟩⟩
  · have : pruneWrites cfg start t h = [] := if_neg hc
    simp only [this, if_neg hc]
    exact ⟨Nat.zero_le _, fun d => ⟨rfl, rfl⟩⟩

variable {n n' : Node} {nEv : Nat} {pre ws : List Write}

theorem preWrites_eq_some : preWrites cfg n h hash nEv = some pre ↔ ∃ tw, treeWrites n.disk.tree h hash = some tw ∧
    eventWrites h nEv ++ (tw ++ pruneWrites cfg (getStartHeight n).1 n.disk.tree h) = pre := by
  unfold preWrites
  cases treeWrites n.disk.tree h hash <;> simp

theorem preWrites_some (hp : preWrites cfg n h hash nEv = some pre) :
    SaveOk n.disk.tree h hash ∧ (applyWrites n.disk pre).app = n.disk.app ∧
    (applyWrites n.disk pre).tree = treeAfter cfg (getStartHeight n).1 n.disk.tree h hash := by
  obtain ⟨tw, htw, rfl⟩ := preWrites_eq_some.mp hp
  obtain ⟨hl, _, ht⟩ := treeWrites_some htw
  have hev := applyWrites_events (eventWrites_all h nEv) n.disk
  obtain ⟨a1, t1⟩ := ht _ hev.2
  obtain ⟨a2, t2⟩ := (pruneWrites_apply cfg (getStartHeight n).1 n.disk.tree h).2
    (applyWrites (applyWrites n.disk (eventWrites h nEv)) tw)
  refine ⟨hl, ?_, ?_⟩
  · rw [applyWrites_append, applyWrites_append, a2, a1, hev.1]
  · rw [applyWrites_append, applyWrites_append, t2, t1]; rfl

theorem preWrites_isSome (cfg : Cfg) (n : Node) (h : Nat) (hash : Hash) (nEv : Nat) :
    (preWrites cfg n h hash nEv).isSome ↔ SaveOk n.disk.tree h hash := by
  unfold preWrites treeWrites SaveOk
  cases hl : treeLookup h n.disk.tree with
  | none => simp
  | some old => by_cases ho : old = hash <;> simp [ho]

theorem commitWrites_eq_some : commitWrites cfg n h hash nEv = some ws ↔
    ∃ pre, preWrites cfg n h hash nEv = some pre ∧ pre ++ (appRecs n.mem h hash).map Write.app = ws := by
  unfold commitWrites
  cases preWrites cfg n h hash nEv <;> simp

theorem commitWritesAtomic_eq_some : commitWritesAtomic cfg n h hash nEv = some ws ↔
    ∃ pre, preWrites cfg n h hash nEv = some pre ∧ pre ++ [Write.appBatch (appRecs n.mem h hash)] = ws := by
  unfold commitWritesAtomic
  cases preWrites cfg n h hash nEv <;> simp

theorem commit_some (hcm : commit cfg n h hash nEv = some n') :
    n'.mem = memAfterCommit n.mem h ∧ n'.disk.app = appAfter n.disk.app n.mem h hash ∧
    n'.disk.tree = treeAfter cfg (getStartHeight n).1 n.disk.tree h hash ∧ SaveOk n.disk.tree h hash := by
  unfold commit at hcm
  cases hw : commitWrites cfg n h hash nEv with
  | none => simp [hw] at hcm
  | some ws =>
    simp only [hw, Option.some.injEq] at hcm
    subst hcm
    obtain ⟨pre, hp, rfl⟩ := commitWrites_eq_some.mp hw
    obtain ⟨h0, h1, h2⟩ := preWrites_some hp
    refine ⟨rfl, ?_, ?_, h0⟩
    · simp only [applyWrites_append, applyWrites_app, h1, setRecs_appRecs]
    · simp only [applyWrites_append, applyWrites_app, h2]

theorem commitAtomic_eq (cfg : Cfg) (n : Node) (h : Nat) (hash : Hash) (nEv : Nat) :
    commitAtomic cfg n h hash nEv = commit cfg n h hash nEv := by
  unfold commitAtomic commit commitWritesAtomic commitWrites
  cases hp : preWrites cfg n h hash nEv with
  | none => rfl
  | some pre =>
    simp only [applyWrites_append, applyWrites_app, applyWrites, applyWrite]

/-- Field by field, what makes a coherent node `Flushed` (`flushed_of_clean`).  `SavePrice` never resets its flag and the
    block times have none, so for these two the condition is that disk and memory agree. -/
structure Clean (n : Node) : Prop where
  vals : n.mem.validators = none
  versions : n.mem.isDirtyVersions = false
  emission : n.mem.isDirtyEmission = false
  price : n.mem.isDirtyPrice = true → n.disk.app.price = n.mem.price
  times : n.mem.lastTimeBlocks ≠ [] → n.disk.app.blockTimes = some n.mem.lastTimeBlocks

theorem flushed_of_clean (n : Node) (hc : Coherent n) (hk : Clean n) : Flushed n := by
  unfold Flushed logicalOfDisk logical
  simp only [List.isEmpty_nil, ↓reduceIte, Logical.mk.injEq, true_and]
  refine ⟨?_, ?_, ?_, ?_, ?_⟩
  · rw [hk.vals]
  · cases hE : n.mem.lastTimeBlocks with
    | nil => simp
    | cons a l => simp; rw [hk.times (by simp [hE]), hE]
  · cases hE : n.mem.versions with
    | nil => simp
    | cons a l => simp; rw [hc.versions hk.versions (by simp [hE]), hE]
  · cases hE : n.mem.emission with
    | none => rfl
    | some e => exact hc.emission hk.emission e hE
  · cases hE : n.mem.price with
    | none => rfl
    | some p =>
      cases hD : n.mem.isDirtyPrice
      · exact hc.price hD p hE
      · simp only; rw [hk.price hD, hE]

/-- `ht`: `SaveBlocksTime` writes `lastTimeBlocks` unconditionally, an empty cache would replace the record by `[]`.
    `BeginBlock` has recorded the block time by then (`blockOps`), which loads the cache. -/
theorem commit_ok (hc : Coherent n) (ht : n.mem.lastTimeBlocks ≠ []) (hcm : commit cfg n h hash nEv = some n') :
    logical n' = { logical n with hash := some hash, height := some h } ∧ Coherent n' ∧ Clean n' := by
  obtain ⟨hm, ha, _, _⟩ := commit_some hcm
  obtain ⟨m', a', t', e'⟩ := n'
  dsimp only at hm ha
  subst hm ha
  unfold appAfter memAfterCommit
  -- a dirty flag has its value, so the record written is the logical value
  have hV : n.mem.isDirtyVersions = true → ∃ x l, n.mem.versions = x :: l := fun hD =>
    List.exists_cons_of_ne_nil (hc.versionsD hD)
  have hE : n.mem.isDirtyEmission = true → ∃ e, n.mem.emission = some e := fun hD =>
    Option.ne_none_iff_exists'.mp (hc.emissionD hD)
  have hP : n.mem.isDirtyPrice = true → ∃ p, n.mem.price = some p := fun hD =>
    Option.ne_none_iff_exists'.mp (hc.priceD hD)
  obtain ⟨t, ts, ht⟩ := List.exists_cons_of_ne_nil ht
  refine ⟨?_, ⟨fun _ => rfl, hc.start, ?_, nofun, ?_, nofun, hc.emissionNZ, ?_, hc.priceD⟩, ⟨rfl, rfl, rfl, ?_, fun _ => rfl⟩⟩
  · simp only [logical, ht, Logical.mk.injEq, true_and]
    refine ⟨by cases n.mem.validators <;> rfl, rfl, ?_, ?_, ?_⟩
    · cases hD : n.mem.isDirtyVersions
      · rfl
      · obtain ⟨x, l, hv⟩ := hV hD; simp [hv]
    · cases hD : n.mem.isDirtyEmission
      · rfl
      · obtain ⟨e, hv⟩ := hE hD; simp [hv]
    · cases hD : n.mem.isDirtyPrice
      · rfl
      · obtain ⟨p, hv⟩ := hP hD; simp [hv]
  · intro _ hv
    cases hD : n.mem.isDirtyVersions
    · exact hc.versions hD hv
    · rfl
  · intro _ e (he : n.mem.emission = some e)
    cases hD : n.mem.isDirtyEmission
    · exact hc.emission hD e he
    · rw [he]; exact readEmission_some (fun e0 => hc.emissionNZ (e0 ▸ he))
  · intro (hD : n.mem.isDirtyPrice = false)
    rw [hD]
    exact hc.price hD
  · intro (hD : n.mem.isDirtyPrice = true)
    obtain ⟨p, hv⟩ := hP hD
    rw [hD, hv]
    rfl

end Persist
end Minter
