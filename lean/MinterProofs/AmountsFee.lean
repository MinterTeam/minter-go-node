import MinterProofs.AmountsCore
import MinterProofs.Begin
import MinterProofs.Props.C13
import MinterProofs.C07Kernels
/-
  C02, commission payments.  For each of the three routes of `payCommission`
    base coin  — `feeBase`,
    bancor coin — `feeBancor`, under the oracle envelope `OracleSound` (Props/C02.lean),
    swap pool  — `poolSell … toRewards`, by the kernel theorem `buyForSell_K` (Props/C13.lean),
  the fee moves preserve `AmountsOk` given the balance check the handler made (`com.commission ≤ balanceOf s payer gas`),
  and the state after the fee is related to the state before it by `FeeFrame` (what a handler's own moves may rely on).
-/
namespace Minter

/-! ### Lookups through `updFirst` -/

theorem findFirst_append_single_ne {α : Type} (q : α → Bool) (l : List α) (y : α) (h : q y = false) :
    findFirst q (l ++ [y]) = findFirst q l := by
  induction l with
  | nil => simp [findFirst, h]
  | cons x t ih => simp only [List.cons_append, findFirst, ih]

/-- Primitives that leave the pools alone. -/
def Prim.keepsPools : Prim → Bool
  | .addPool _ _ _ _ | .createPool _ => false
  | _ => true

theorem apply_pools (s : State) (p : Prim) (h : p.keepsPools = true) : (p.apply s).pools = s.pools := by
  cases p <;> first | rfl | cases h

theorem getPool_apply (s : State) (p : Prim) (a b : Coin) (h : p.keepsPools = true) : getPool (p.apply s) a b = getPool s a b := by
  unfold getPool; rw [apply_pools s p h]

theorem getCoin_addVolume_same (s : State) (c : Coin) (v : Int) :
    getCoin ((Prim.addVolume c v).apply s) c = (getCoin s c).map fun ci => { ci with volume := ci.volume + v } :=
  findFirst_updFirst _ _ _ (fun _ => rfl)

theorem getCoin_addReserve_same (s : State) (c : Coin) (v : Int) :
    getCoin ((Prim.addReserve c v).apply s) c = (getCoin s c).map fun ci => { ci with reserve := ci.reserve + v } :=
  findFirst_updFirst _ _ _ (fun _ => rfl)

theorem coin_other_aux (c c' : Coin) (hne : c' ≠ c) (g : CoinInfo → CoinInfo) (hg : ∀ x, (g x).id = x.id) (l : List CoinInfo) :
    findFirst (fun ci => ci.id == c') (updFirst (fun ci => ci.id == c) g l) = findFirst (fun ci => ci.id == c') l := by
  apply findFirst_updFirst_other _ _ _ _ (fun x => by simp only [hg])
  intro x hx
  simp only [beq_iff_eq] at hx
  simpa [hx] using fun e : c = c' => hne e.symm

theorem getCoin_addVolume_ne (s : State) (c c' : Coin) (v : Int) (hne : c' ≠ c) :
    getCoin ((Prim.addVolume c v).apply s) c' = getCoin s c' :=
  coin_other_aux c c' hne (fun ci => { ci with volume := ci.volume + v }) (fun _ => rfl) s.coins

theorem getCoin_addReserve_ne (s : State) (c c' : Coin) (v : Int) (hne : c' ≠ c) :
    getCoin ((Prim.addReserve c v).apply s) c' = getCoin s c' :=
  coin_other_aux c c' hne (fun ci => { ci with reserve := ci.reserve + v }) (fun _ => rfl) s.coins

theorem ask_ok (o : Oracle) (q : OQ) (v : Int) (h : ask o q = .ok v) : o q = some v := by
  unfold ask at h
  cases ho : o q with
  | none => rw [ho] at h; cases h
  | some x => rw [ho] at h; cases h; rfl

/-! ### `CalculateCommission` -/

theorem comFromReserve_ok (P : Params) (o : Oracle) (s : State) (gas : Coin) (inBase r : Int)
    (h : comFromReserve P o s gas inBase = .ok (.ok r)) :
    ∃ ci, getCoin s gas = some ci ∧ hasReserve ci = true ∧ P.minReserve ≤ ci.reserve - inBase ∧
      o (.saleAmount ci.volume ci.reserve ci.crr inBase) = some r := by
  unfold comFromReserve at h
  split at h
  · cases h
  next ci hci =>
  split at h
  · cases h
  next hres =>
  split at h
  · cases h
  next hmin =>
  cases ha : ask o (.saleAmount ci.volume ci.reserve ci.crr inBase) with
  | error e => rw [ha] at h; cases h
  | ok v => rw [ha] at h; cases h; exact ⟨ci, hci, by simpa using hres, Int.not_lt.mp hmin, ask_ok _ _ _ ha⟩

theorem comFromPool_pos (P : Params) (s : State) (gas : Coin) (inBase x : Int) (h : comFromPool P s gas inBase = .ok (.ok x)) : 0 < x := by
  unfold comFromPool at h
  split at h
  · cases h
  · split at h
    · cases h
    · split at h
      · cases h
      · cases h
      · split at h
        · cases h
        · cases h; omega

/-- The four ways `CalculateCommission` answers a commission: the price itself in the base coin, nothing for a zero price, else the
    bancor sale amount or the input of the pool `{gas, base}`, whichever is smaller. -/
theorem calcCommission_cases (P : Params) (o : Oracle) (s : State) (gas : Coin) (price : Int) (com : Com)
    (h : calcCommission P o s gas price = .ok (.ok com)) :
    (gas = 0 ∧ com = ⟨price, price, false⟩) ∨ (price = 0 ∧ com = ⟨0, price, false⟩) ∨
    (∃ r, comFromReserve P o s gas price = .ok (.ok r) ∧ com = ⟨r, price, false⟩) ∨
    (∃ x, comFromPool P s gas price = .ok (.ok x) ∧ com = ⟨x, price, true⟩) := by
  unfold calcCommission at h
  split at h
  · next hg => cases h; exact .inl ⟨by simpa using hg, rfl⟩
  split at h
  · next hz => cases h; exact .inr (.inl ⟨by simpa using hz, rfl⟩)
  cases hfp : comFromPool P s gas price with
  | error e => rw [hfp] at h; cases h
  | ok fp =>
    rw [hfp] at h
    simp only at h
    cases hfr : comFromReserve P o s gas price with
    | error e => rw [hfr] at h; cases h
    | ok fr =>
      rw [hfr] at h
      rcases fp with c1 | x <;> rcases fr with c2 | r <;> simp only at h
      · cases h
      · cases h; exact .inr (.inr (.inl ⟨r, rfl, rfl⟩))
      · cases h; exact .inr (.inr (.inr ⟨x, rfl, rfl⟩))
      · split at h <;> cases h
        · exact .inr (.inr (.inl ⟨r, rfl, rfl⟩))
        · exact .inr (.inr (.inr ⟨x, rfl, rfl⟩))

/-- What the fee moves need to know about a commission that is paid in a bancor coin: it does not exceed the coin's volume, its base
    value does not exceed the coin's reserve, neither is negative. -/
def ComSound (s : State) (gas : Coin) (com : Com) : Prop :=
  com.fromPool = false → gas ≠ 0 →
    optProp (getCoin s gas) fun ci => 0 ≤ com.commission ∧ com.commission ≤ ci.volume ∧ 0 ≤ com.inBase ∧ com.inBase ≤ ci.reserve

/-- `CalculateCommission` under the oracle envelope. -/
theorem calcCommission_sound (P : Params) (o : Oracle) (s : State) (gas : Coin) (price : Int) (com : Com)
    (ho : OracleSound o) (hP : 0 ≤ P.minReserve) (hok : AmountsOk s) (hp : 0 ≤ price)
    (h : calcCommission P o s gas price = .ok (.ok com)) : ComSound s gas com ∧ com.inBase = price := by
  rcases calcCommission_cases P o s gas price com h with ⟨hg, rfl⟩ | ⟨rfl, rfl⟩ | ⟨r, hr, rfl⟩ | ⟨x, -, rfl⟩
  · exact ⟨fun _ hne => absurd hg hne, rfl⟩
  · refine ⟨fun _ _ => optProp_iff.mpr fun ci hc => ?_, rfl⟩
    have := hok.coins ci (findFirst_mem _ _ _ hc).1
    exact ⟨Int.le_refl 0, this.1, Int.le_refl 0, this.2.1⟩
  · obtain ⟨ci, hci, -, hmin, hv⟩ := comFromReserve_ok P o s gas price r hr
    refine ⟨fun _ _ => optProp_iff.mpr fun ci' hc => ?_, rfl⟩
    cases hci.symm.trans hc
    exact ⟨ho.nonneg _ _ hv, ho.saleAmountLeVolume _ _ _ _ _ hv hp (by omega), hp, show price ≤ ci.reserve by omega⟩
  · exact ⟨nofun, rfl⟩

/-- A non-zero commission paid from a bancor reserve: the gas coin has one. -/
theorem calcCommission_reserve (P : Params) (o : Oracle) (s : State) (gas : Coin) (price : Int) (com : Com)
    (h : calcCommission P o s gas price = .ok (.ok com)) (hfp : com.fromPool = false) (hg : gas ≠ 0) (hc : com.commission ≠ 0) :
    ∃ ci, getCoin s gas = some ci ∧ hasReserve ci = true := by
  rcases calcCommission_cases P o s gas price com h with ⟨e, -⟩ | ⟨-, rfl⟩ | ⟨r, hr, -⟩ | ⟨x, -, rfl⟩
  · exact absurd e hg
  · exact absurd rfl hc
  · obtain ⟨ci, hci, hres, -⟩ := comFromReserve_ok P o s gas price r hr
    exact ⟨ci, hci, hres⟩
  · cases hfp

theorem calcCommission_nonneg (P : Params) (o : Oracle) (s : State) (gas : Coin) (price : Int) (com : Com)
    (ho : OracleSound o) (hp : 0 ≤ price) (h : calcCommission P o s gas price = .ok (.ok com)) : 0 ≤ com.commission := by
  rcases calcCommission_cases P o s gas price com h with ⟨-, rfl⟩ | ⟨-, rfl⟩ | ⟨r, hr, rfl⟩ | ⟨x, hx, rfl⟩
  · exact hp
  · exact Int.le_refl 0
  · obtain ⟨ci, -, -, -, hv⟩ := comFromReserve_ok P o s gas price r hr
    exact ho.nonneg _ _ hv
  · exact Int.le_of_lt (comFromPool_pos P s gas price x hx)

/-! ### The state after the fee -/

/-- How the state after the commission payment relates to the state before it. -/
structure FeeFrame (s s1 : State) (payer : Addr) (gas : Coin) (com : Com) (adj : Option PoolAdj) : Prop where
  /-- nobody but the payer loses anything, and the payer loses the commission in the gas coin. -/
  bal : ∀ a c, balanceOf s a c - (if a = payer ∧ c = gas then com.commission else 0) ≤ balanceOf s1 a c
  cands : s1.candidates = s.candidates
  wait : s1.waitlist = s.waitlist
  frozen : s1.frozen = s.frozen
  orders : s1.orders = s.orders
  /-- coins other than a bancor-paid gas coin are as before. -/
  coinOther : ∀ c, (c ≠ gas ∨ com.fromPool = true ∨ gas = 0) → getCoin s1 c = getCoin s c
  /-- a bancor-paid gas coin lost the commission from its volume and the base value from its reserve. -/
  coinGas : com.fromPool = false → gas ≠ 0 →
    getCoin s1 gas = (getCoin s gas).map fun ci => { ci with volume := ci.volume - com.commission, reserve := ci.reserve - com.inBase }
  /-- pools are as before unless the commission went through one … -/
  pools : adj = none → s1.pools = s.pools
  /-- … in which case the stored entry of that pool changed by exactly the reported adjustment. -/
  poolsAdj : ∀ j, adj = some j →
    ((getPool s j.a j.b).isSome = true ∧
      s1.pools = updFirst (fun p => p.c0 == j.a && p.c1 == j.b) (fun p => { p with r0 := p.r0 + j.da, r1 := p.r1 + j.db }) s.pools) ∨
    ((getPool s j.a j.b).isSome = false ∧
      s1.pools = updFirst (fun p => p.c0 == j.b && p.c1 == j.a) (fun p => { p with r0 := p.r0 + j.db, r1 := p.r1 + j.da }) s.pools)
  adjNone : com.fromPool = false → adj = none
  ncoins : s1.ncoins = s.ncoins

/-- The registry entry of `c` after the commission, as one equation. -/
theorem frame_getCoin (s s1 : State) (payer : Addr) (gas : Coin) (com : Com) (adj : Option PoolAdj) (c : Coin)
    (hfr : FeeFrame s s1 payer gas com adj) :
    getCoin s1 c = if c = gas ∧ com.fromPool = false ∧ gas ≠ 0 then
        (getCoin s c).map fun ci => { ci with volume := ci.volume - com.commission, reserve := ci.reserve - com.inBase }
      else getCoin s c := by
  split
  · next h => obtain ⟨h1, h2, h3⟩ := h; rw [h1]; exact hfr.coinGas h2 h3
  · next h =>
    apply hfr.coinOther
    by_cases h1 : c = gas
    · by_cases h2 : com.fromPool = true
      · exact Or.inr (Or.inl h2)
      · by_cases h3 : gas = 0
        · exact Or.inr (Or.inr h3)
        · exact absurd ⟨h1, by simpa using h2, h3⟩ h
    · exact Or.inl h1

/-- **Commission in the base coin.** -/
theorem fee_base (s s1 : State) (payer : Addr) (v : Int) (hok : AmountsOk s) (hf : v ≤ balanceOf s payer 0)
    (h : applyChecked s (planOf [.feeBase payer v]) = some s1) :
    AmountsOk s1 ∧ FeeFrame s s1 payer 0 ⟨v, v, false⟩ none := by
  cases applyChecked_eq_applyAll s s1 _ h
  exact ⟨(hok.debit hf).addRewards v, fun a c => Int.le_of_eq (balance_debit s payer 0 v a c).symm, rfl, rfl, rfl, rfl, fun _ _ => rfl,
    fun _ hne => absurd rfl hne, fun _ => rfl, nofun, fun _ => rfl, rfl⟩

/-- **Commission in a bancor coin** (under the envelope: `ComSound`). -/
theorem fee_bancor (s s1 : State) (payer : Addr) (gas : Coin) (com : Com) (hok : AmountsOk s)
    (hfp : com.fromPool = false) (hg : gas ≠ 0) (hsound : ComSound s gas com) (hf : com.commission ≤ balanceOf s payer gas)
    (h : applyChecked s (planOf [.feeBancor payer gas com.commission com.inBase]) = some s1) :
    AmountsOk s1 ∧ FeeFrame s s1 payer gas com none := by
  have hplan : planOf [.feeBancor payer gas com.commission com.inBase] =
      [.addVolume gas (-com.commission), .addReserve gas (-com.inBase), .addBal payer gas (-com.commission), .addRewards com.inBase] := by
    simp [planOf, Move.prims, hg]
  rw [hplan] at h
  cases applyChecked_eq_applyAll s s1 _ h
  have hs := optProp_iff.mp (hsound hfp hg)
  refine ⟨?_, fun a c => Int.le_of_eq (balance_debit _ payer gas com.commission a c).symm, rfl, rfl, rfl, rfl, fun c hc => ?_, fun _ _ => ?_,
    fun _ => rfl, nofun, fun _ => rfl, rfl⟩
  · refine (((hok.addVolume fun ci hc => ?_).prim (p := .addReserve gas (-com.inBase)) (optProp_iff.mpr fun ci hc => ?_) nofun).debit
      hf).addRewards _
    · have := hs ci hc
      have := hok.coins ci (findFirst_mem _ _ _ hc).1
      exact ⟨by omega, by omega⟩
    · obtain ⟨ci0, h0, rfl⟩ := Option.map_eq_some_iff.mp ((getCoin_addVolume_same s gas _).symm.trans hc)
      have := hs ci0 h0
      show 0 ≤ ci0.reserve + -com.inBase
      omega
  · rcases hc with hc | hc | hc
    · exact (getCoin_addReserve_ne _ _ _ _ hc).trans (getCoin_addVolume_ne _ _ _ _ hc)
    · rw [hfp] at hc; cases hc
    · exact absurd hc hg
  · refine (getCoin_addReserve_same _ gas _).trans ?_
    rw [getCoin_addVolume_same]
    cases getCoin s gas with
    | none => rfl
    | some ci => simp only [Option.map, Int.sub_eq_add_neg]

/-! ### Commission through a swap pool -/

theorem getPool_addPool_same (s : State) (a b : Coin) (d0 d1 : Int) :
    getPool ((Prim.addPool a b d0 d1).apply s) a b = (getPool s a b).map fun p => { p with r0 := p.r0 + d0, r1 := p.r1 + d1 } :=
  findFirst_updFirst _ _ _ (fun _ => rfl)

/-- A pool sale keeps the amounts in range when the pool entry it updates has positive reserves, the output is below the reserve it
    leaves, and the payer holds input + burn: the entry changes, the burn address is credited, the payer debited, and the proceeds
    go to the fee pool or to `dest`. -/
theorem poolSell_keeps {s : State} (hok : AmountsOk s) {payer : Addr} {c0 c1 : Coin} {sellsC0 : Bool} {net out burn : Int}
    (toRewards : Bool) (dest : Addr) {p : Pool} (hp : getPool s c0 c1 = some p)
    (hnet : 0 < net) (hout : 0 < out) (hlt : out < (if sellsC0 then p.r1 else p.r0)) (hburn : 0 ≤ burn)
    (hbal : net + burn ≤ balanceOf s payer (if sellsC0 then c0 else c1)) :
    AmountsOk (applyAll s (Move.poolSell payer c0 c1 sellsC0 net out burn toRewards dest).prims) := by
  have hpp := hok.pools p (findFirst_mem _ _ _ hp).1
  -- every orientation applies these three primitives first; only the deltas of the entry and the coin differ
  have h3 : ∀ d0 d1 a, 0 < p.r0 + d0 → 0 < p.r1 + d1 → net + burn ≤ balanceOf s payer a →
      AmountsOk (applyAll s [.addPool c0 c1 d0 d1, .addBal Move.prims.burnAddressM a burn, .addBal payer a (-(net + burn))]) :=
    fun d0 d1 a h0 h1 hb =>
      ((hok.prim (p := .addPool c0 c1 d0 d1) (optProp_iff.mpr fun q hq => by cases hp.symm.trans hq; exact ⟨h0, h1⟩) nofun).credit _ _
        hburn).debit (Int.le_trans hb (le_balance_credit ((Prim.addPool c0 c1 d0 d1).apply s) _ _ hburn _ _))
  cases sellsC0 <;> cases toRewards <;> simp only [Move.prims, Bool.false_eq_true, if_false, if_true] at hlt hbal ⊢
  · exact (h3 _ _ _ (by omega) (by omega) hbal).credit _ _ (Int.le_of_lt hout)
  · split
    · exact (h3 _ _ _ (by omega) (by omega) hbal).addRewards _
    · exact hok
  · exact (h3 _ _ _ (by omega) (by omega) hbal).credit _ _ (Int.le_of_lt hout)
  · split
    · exact (h3 _ _ _ (by omega) (by omega) hbal).addRewards _
    · exact hok

/-- The move `pairSellMove` builds, with the stored orientation of the pool as a parameter: `fwd` = it is stored as `(a, b)`. -/
theorem pairSellMove_fwd {s : State} {adj : Option PoolAdj} {payer : Addr} {a b : Coin} {amountIn minOut : Int} {toRewards : Bool}
    {dest : Addr} {mv : Move} {out : Int} {j : PoolAdj}
    (h : pairSellMove s adj payer a b amountIn minOut toRewards dest = .ok (mv, out, j)) {fwd : Bool} (hfwd : (getPool s a b).isSome = fwd) :
    mv = .poolSell payer (if fwd then a else b) (if fwd then b else a) fwd (amountIn - com1000 amountIn) out (com1000 amountIn)
      toRewards dest := by
  rcases (pairSellMove_shape s adj payer a b amountIn minOut toRewards dest mv out j h).2.2.2.2.1 with ⟨hs, rfl⟩ | ⟨hs, rfl⟩ <;>
    cases hs.symm.trans hfwd <;> rfl

/-- The stored entry behind `poolRes s a b`, in the orientation it is stored in. -/
theorem poolRes_entry {s : State} {a b : Coin} {r0 r1 : Int} (h : poolRes s a b = some (r0, r1)) {fwd : Bool}
    (hfwd : (getPool s a b).isSome = fwd) :
    ∃ p, getPool s (if fwd then a else b) (if fwd then b else a) = some p ∧
      r0 = (if fwd then p.r0 else p.r1) ∧ r1 = (if fwd then p.r1 else p.r0) := by
  rcases poolRes_cases h with ⟨p, hp, rfl, rfl⟩ | ⟨hn, p, hp, rfl, rfl⟩
  · rw [hp] at hfwd; cases hfwd; exact ⟨p, hp, rfl, rfl⟩
  · rw [hn] at hfwd; cases hfwd; exact ⟨p, hp, rfl, rfl⟩

/-- A pool sale as `pairSellMove` builds it keeps the amounts in range in any state `σ` where the entry of the pool carries the
    reserves the quote ran on and the payer holds the amount sold. -/
theorem pairSell_keeps {s σ : State} (hok : AmountsOk σ) {adj : Option PoolAdj} {payer : Addr} {a b : Coin} {amountIn minOut : Int}
    {toRewards : Bool} {dest : Addr} {mv : Move} {out : Int} {j : PoolAdj}
    (h : pairSellMove s adj payer a b amountIn minOut toRewards dest = .ok (mv, out, j)) {fwd : Bool} (hfwd : (getPool s a b).isSome = fwd)
    (hentry : ∀ r0 r1, poolResAdj s adj a b = some (r0, r1) → ∃ p, getPool σ (if fwd then a else b) (if fwd then b else a) = some p ∧
      r0 = (if fwd then p.r0 else p.r1) ∧ r1 = (if fwd then p.r1 else p.r0))
    (hbal : amountIn ≤ balanceOf σ payer a) : AmountsOk (applyAll σ mv.prims) := by
  obtain ⟨hin, hout, -, hnet, -, -, -, r0, r1, hres, hq⟩ := pairSellMove_shape s adj payer a b amountIn minOut toRewards dest mv out j h
  obtain ⟨p, hp, rfl, rfl⟩ := hentry r0 r1 hres
  have hpp := hok.pools p (findFirst_mem _ _ _ hp).1
  have hburn := com1000_bounds amountIn (Int.le_of_lt hin)
  have hbs := (bfs_val_pos _ _ _ _ hq hout).2
  rw [pairSellMove_fwd h hfwd]
  cases fwd <;> simp only [Bool.false_eq_true, if_false, if_true] at hp hbs ⊢
  · exact poolSell_keeps hok toRewards dest hp hnet hout (buyForSell_K _ _ _ _ hpp.2 hpp.1 hnet hbs).2.1 hburn.1
      (by simp only [Bool.false_eq_true, if_false]; omega)
  · exact poolSell_keeps hok toRewards dest hp hnet hout (buyForSell_K _ _ _ _ hpp.1 hpp.2 hnet hbs).2.1 hburn.1
      (by simp only [if_true]; omega)

/-- **Commission through the pool `{gas, base}`.** -/
theorem fee_pool (s s1 : State) (payer : Addr) (gas : Coin) (com : Com) (minOut : Int) (paid : Paid) (hok : AmountsOk s)
    (hfp : com.fromPool = true) (hf : com.commission ≤ balanceOf s payer gas)
    (hpay : payCommission s payer gas com minOut = .ok paid)
    (h : applyChecked s (planOf paid.moves) = some s1) :
    AmountsOk s1 ∧ FeeFrame s s1 payer gas com paid.adj := by
  rcases (payCommission_shape s payer gas com minOut paid hpay).2 with ⟨-, mv, out, adj, hm, hmoves, -, hadj⟩ | ⟨hf', -⟩ | ⟨hf', -⟩
  rotate_left
  · cases hfp.symm.trans hf'
  · cases hfp.symm.trans hf'
  rw [hmoves, show planOf [mv] = mv.prims by simp [planOf]] at h
  cases applyChecked_eq_applyAll s s1 _ h
  refine ⟨pairSell_keeps hok hm rfl (fun r0 r1 hr => poolRes_entry ((poolResAdj_none s gas 0).symm.trans hr) rfl) hf, ?_⟩
  obtain ⟨hin, -, -, -, -, rfl, -⟩ := pairSellMove_shape s none payer gas 0 _ minOut true 0 mv out adj hm
  have hburn := (com1000_bounds com.commission (Int.le_of_lt hin)).1
  -- balances see a credit of the burn address and the payer's debit of net + burn = the commission, whatever the pool primitive is
  have hbal : ∀ σ, (∀ x k, balanceOf σ x k = balanceOf s x k) → ∀ a c,
      balanceOf s a c - (if a = payer ∧ c = gas then com.commission else 0) ≤
        balanceOf ((Prim.addBal payer gas (-(com.commission - com1000 com.commission + com1000 com.commission))).apply
          ((Prim.addBal Move.prims.burnAddressM gas (com1000 com.commission)).apply σ)) a c := by
    intro σ hσ a c
    rw [balance_debit, ← hσ, show com.commission - com1000 com.commission + com1000 com.commission = com.commission by omega]
    exact Int.sub_le_sub_right (le_balance_credit σ _ _ hburn a c) _
  rw [hadj, pairSellMove_fwd hm rfl]
  cases hF : (getPool s gas 0).isSome <;> simp only [Move.prims, Bool.false_eq_true, if_false, if_true]
  all_goals refine ⟨hbal _ fun _ _ => rfl, rfl, rfl, rfl, rfl, fun _ _ => rfl, fun hx => Bool.noConfusion (hfp.symm.trans hx), nofun, fun j hj => ?_,
    fun hx => Bool.noConfusion (hfp.symm.trans hx), rfl⟩
  · cases hj; exact .inr ⟨hF, rfl⟩
  · cases hj; exact .inl ⟨hF, rfl⟩

/-- **All three routes of `payCommission`.**  Given the balance check the handler made and a sound commission, paying the commission
    preserves `AmountsOk` and leaves the state described by `FeeFrame`. -/
theorem fee_preserves (s s1 : State) (payer : Addr) (gas : Coin) (com : Com) (minOut : Int) (paid : Paid) (hok : AmountsOk s)
    (hsound : ComSound s gas com) (hf : com.commission ≤ balanceOf s payer gas)
    (hpay : payCommission s payer gas com minOut = .ok paid)
    (h : applyChecked s (planOf paid.moves) = some s1) :
    AmountsOk s1 ∧ FeeFrame s s1 payer gas com paid.adj := by
  rcases (payCommission_shape s payer gas com minOut paid hpay).2 with ⟨hfp, _⟩ | ⟨hfp, hg, hm, _, hadj⟩ | ⟨hfp, hg, hc, hm, _, hadj⟩
  · exact fee_pool s s1 payer gas com minOut paid hok hfp hf hpay h
  · rw [hm] at h; rw [hadj]
    exact fee_bancor s s1 payer gas com hok hfp hg hsound hf h
  · rw [hm] at h; rw [hadj]
    subst hg
    obtain ⟨c, ib, fp⟩ := com
    simp only at hfp hc hf h
    subst hfp; subst hc
    exact fee_base s s1 payer c hok hf h

end Minter
