import MinterProofs.AmountsTypes
import MinterProofs.AmountsMoves
/-
  C02, staking types that take value out of a stake: Unbond (8) and MoveStake (27) — every commission route.
-/
namespace Minter

variable {P : Params} {o : Oracle} {s : State} {t : TxIn} {price : Int} {rd : Ready}

/-- Candidate ids identify candidates: looking a listed candidate up by its id finds it (ids are unique in every exported state). -/
def CandIdsWf (s : State) : Prop := ∀ cd ∈ s.candidates, getCand s cd.id = some cd

/-- What has to come out of the stake: the part of `value` the waitlist entry does not cover. -/
def unbondNeed (value : Int) (wl : Option WaitEntry) : Int :=
  match wl with
  | some w => value - w.value
  | none => value

theorem unbond_safe (s : State) (hok : AmountsOk s) (a : Addr) (stakeCand : Nat) (coin : Coin) (value : Int) (wl : Option WaitEntry)
    (f : Frozen) (hv : 0 ≤ value)
    (hst : (0 < unbondNeed value wl ∨ wl = none) →
      optProp (getCand s stakeCand) fun cd => optProp (findFirst (stakeKey a coin) cd.stakes) fun st => unbondNeed value wl ≤ st.value) :
    AmountsOk (applyAll s (Move.unbond a stakeCand coin value wl f).prims) := by
  cases wl with
  | none =>
    exact (hok.prim (p := .addStake _ _ _ _) ((hst (.inr rfl)).imp fun cd h => h.imp fun st h => Int.sub_nonneg_of_le h) nofun).prim
      (p := .addFrozen _) hv nofun
  | some w =>
    have hok1 := hok.prim (p := .delWait { w with owner := a, coin := coin }) trivial nofun
    simp only [Move.prims]
    split
    · exact (hok1.prim (p := .addWait _) (by simp only [PrimSafe]; omega) nofun).prim (p := .addFrozen _) hv nofun
    · split
      · next hd =>
        exact (hok1.prim (p := .addStake _ _ _ _) ((hst (.inl hd)).imp fun cd h => h.imp fun st h => Int.sub_nonneg_of_le h) nofun).prim
          (p := .addFrozen _) hv nofun
      · exact hok1.prim (p := .addFrozen _) hv nofun

/-- The stake part of `unbondCheck` (/repo abd6676: the rejection condition without a positive stake is `wlStake < value || wlStake ≤ 0`):
    when it passes, the stake covers what the waitlist entry does not. -/
theorem stake_covers {wl value sv : Int} (h : wl < value ∨ wl ≤ 0)
    (hc : (if decide (0 < sv) = true then if wl + sv < value then some 405 else none
           else if (decide (wl < value) || decide (wl ≤ 0)) = true then if wl ≤ 0 then some 404 else some 412 else none) = (none : Option Nat)) :
    value - wl ≤ sv := by
  split at hc
  · split at hc
    · cases hc
    · omega
  · split at hc
    · split at hc <;> cases hc
    · next hb =>
      simp only [Bool.or_eq_true, decide_eq_true_eq, not_or, Int.not_lt, Int.not_le] at hb
      omega

/-- What a passed `unbondCheck` and a successful `unbondMoves` give: one `unbond` move, and the stake covers what is taken from it. -/
theorem unbond_moves_spec (s : State) (a : Addr) (pk : PubKey) (coin : Coin) (value : Int) (height moveTo : Nat) (ms : List Move)
    (hwf : CandIdsWf s)
    (hc : unbondCheck s a pk coin value = none) (hm : unbondMoves s a pk coin value height moveTo = .ok ms) :
    ∃ cid f, ms = [.unbond a cid coin value (waitGet s a pk coin) f] ∧
      ((0 < unbondNeed value (waitGet s a pk coin) ∨ waitGet s a pk coin = none) →
        optProp (getCand s cid) fun cd => optProp (findFirst (stakeKey a coin) cd.stakes) fun st =>
          unbondNeed value (waitGet s a pk coin) ≤ st.value) := by
  unfold unbondCheck at hc
  unfold unbondMoves at hm
  simp only at hc hm
  cases hcd : candByKey s pk with
  | none =>
    rw [hcd] at hm
    simp only [guard_throw_iff] at hm
    obtain ⟨hns, hm⟩ := hm
    cases hm
    refine ⟨0, _, rfl, fun hneed => ?_⟩
    cases hw : waitGet s a pk coin with
    | none => rw [hw] at hns; exact absurd rfl hns
    | some w =>
      rw [hw] at hns hneed
      simp only [unbondNeed, decide_eq_true_eq, reduceCtorEq, or_false] at hns hneed
      omega
  | some cd =>
    rw [hcd] at hc hm
    simp only [guard_throw_iff] at hc hm
    cases hm.2
    refine ⟨cd.id, _, rfl, fun hneed => ?_⟩
    rw [hwf cd (findFirst_mem _ _ _ hcd).1]
    simp only [optProp_some]
    cases hs : findFirst (stakeKey a coin) cd.stakes with
    | none => trivial
    | some st =>
      rw [hs] at hc
      cases hw : waitGet s a pk coin with
      | none =>
        rw [hw] at hc
        simp only [Bool.false_eq_true, if_false, Option.getD] at hc
        exact Int.sub_zero value ▸ stake_covers (.inr (Int.le_refl 0)) hc
      | some w =>
        rw [hw] at hc hneed
        simp only [unbondNeed, reduceCtorEq, or_false] at hneed
        have hne : ¬ value ≤ w.value := by omega
        simp only [hne, decide_false, Bool.false_eq_true, if_false, Option.getD] at hc
        exact stake_covers (.inl (by omega)) hc

theorem unbond_body_safe (s s1 : State) (payer : Addr) (gas : Coin) (com : Com) (adj : Option PoolAdj)
    (a : Addr) (pk : PubKey) (coin : Coin) (value : Int) (height moveTo : Nat) (ms : List Move)
    (hwf : CandIdsWf s) (hv : 0 ≤ value) (hfr : FeeFrame s s1 payer gas com adj)
    (hok1 : AmountsOk s1) (hc : unbondCheck s a pk coin value = none) (hm : unbondMoves s a pk coin value height moveTo = .ok ms) :
    AmountsOk (applyAll s1 (planOf ms)) := by
  obtain ⟨cid, f, rfl, hst⟩ := unbond_moves_spec s a pk coin value height moveTo ms hwf hc hm
  rw [planOf_single]
  apply unbond_safe s1 hok1 _ _ _ _ _ _ hv
  intro hneed
  have := hst hneed
  unfold getCand at this ⊢
  rw [hfr.cands]
  exact this

/-- Unbond and MoveStake end alike: after `unbondCheck` the commission, its balance check, and an execution that is `unbondMoves`. -/
theorem unbondTail_typed {pk : PubKey} {coin : Coin} {value : Int} {height moveTo : Nat} {tags : List (String × String)}
    (hwf : CandIdsWf s) (hv : 0 ≤ value) (hchk : unbondCheck s t.sender pk coin value = none)
    (h : withCom P o s t.gasCoin price (fun com =>
        if balanceOf s t.sender t.gasCoin < com.commission then reject 107 else
        pure (.ok { payer := t.sender, coin := t.gasCoin, com := com,
                    exec := fun _ =>
                      match unbondMoves s t.sender pk coin value height moveTo with
                      | .error e => throw e
                      | .ok ms => pure (ms, tags) })) = .ok (.ok rd)) : Checked P o s price rd ∧ BodyKeeps s rd := by
  simp only [withCom_ready_iff, guard_ready_iff, pure_ready_iff] at h
  obtain ⟨com, hcom, hf, rfl⟩ := h
  refine ⟨⟨hcom, Int.not_lt.mp hf⟩, fun s1 paid body tags _ hfr hok1 he => ?_⟩
  simp only at he
  split at he
  · cases he
  next ms hm =>
  cases he
  exact unbond_body_safe s s1 _ _ _ paid.adj _ _ _ _ _ _ _ hwf hv hfr hok1 hchk hm

theorem unbond_typed {block : Nat} (hwf : CandIdsWf s) (hv : 0 ≤ t.int "d.Value")
    (h : runUnbond P o s block t price = .ok (.ok rd)) : Checked P o s price rd ∧ BodyKeeps s rd := by
  simp only [runUnbond, guard_ready_iff] at h
  obtain ⟨-, -, h⟩ := h
  split at h
  · cases h
  next hchk => exact unbondTail_typed hwf hv hchk h

theorem moveStake_typed {block : Nat} (hwf : CandIdsWf s) (hv : 0 ≤ t.int "d.Value")
    (h : runMoveStake P o s block t price = .ok (.ok rd)) : Checked P o s price rd ∧ BodyKeeps s rd := by
  simp only [runMoveStake, guard_ready_iff] at h
  obtain ⟨-, -, -, h⟩ := h
  split at h
  · cases h
  next hchk => exact unbondTail_typed hwf hv hchk h

end Minter
