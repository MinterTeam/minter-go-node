import MinterModel.Tx
import MinterProofs.TxLemmas
import MinterProofs.Props.C02
/-
  C02, core: the per-primitive guard `PrimSafe` under which one ledger primitive preserves `AmountsOk`
  (the Prop form of the monitor `amountsOk`), and the plan lemma `planSafe_preserves`.

  `PrimSafe s p` is *exactly* "the value the primitive writes is in range":
    addBal a c v        0 ≤ balanceOf s a c + v
    addVolume c v       0 ≤ volume + v ≤ maxSupply      (of the registry entry the primitive updates)
    addReserve c v      0 ≤ reserve + v
    createCoin ci       0 ≤ volume, 0 ≤ reserve, volume ≤ maxSupply
    addPool c0 c1 d0 d1 0 < r0 + d0 and 0 < r1 + d1     (of the pool entry the primitive updates)
    createPool p        0 < r0, 0 < r1
    addSlashed v        0 ≤ slashed + v
    addAccum pk v       0 ≤ accum + v
    addStake …  v       0 ≤ stake + v
    newStake/pushUpdate/addWait/addFrozen   0 ≤ value
    addOrder o          0 ≤ v0, 0 ≤ v1
    fillOrder o d0 d1   d0 ≤ v0, d1 ≤ v1
  Everything else (deletions, settings, the fee pool, emission) needs nothing.
-/
namespace Minter

/-- `q` holds of the value, if there is one. -/
def optProp {α : Type} : Option α → (α → Prop) → Prop
  | some x, q => q x
  | none, _ => True

instance {α : Type} (o : Option α) (q : α → Prop) [∀ x, Decidable (q x)] : Decidable (optProp o q) := by
  cases o <;> unfold optProp <;> infer_instance

@[simp] theorem optProp_some {α : Type} (x : α) (q : α → Prop) : optProp (some x) q = q x := rfl
@[simp] theorem optProp_none {α : Type} (q : α → Prop) : optProp (none : Option α) q = True := rfl

/-- The guard under which a primitive keeps every amount in range. -/
def PrimSafe (s : State) : Prim → Prop
  | .addBal a c v => 0 ≤ balanceOf s a c + v
  | .addVolume c v => optProp (getCoin s c) fun ci => 0 ≤ ci.volume + v ∧ ci.volume + v ≤ ci.maxSupply
  | .addReserve c v => optProp (getCoin s c) fun ci => 0 ≤ ci.reserve + v
  | .createCoin ci => 0 ≤ ci.volume ∧ 0 ≤ ci.reserve ∧ ci.volume ≤ ci.maxSupply
  | .addPool c0 c1 d0 d1 => optProp (getPool s c0 c1) fun p => 0 < p.r0 + d0 ∧ 0 < p.r1 + d1
  | .createPool p => 0 < p.r0 ∧ 0 < p.r1
  | .addSlashed v => 0 ≤ s.slashed + v
  | .addAccum pk v => optProp (findFirst (·.pubkey == pk) s.validators) fun x => 0 ≤ x.accum + v
  | .addStake cand owner coin v =>
      optProp (getCand s cand) fun cd => optProp (findFirst (stakeKey owner coin) cd.stakes) fun st => 0 ≤ st.value + v
  | .newStake _ st => 0 ≤ st.value
  | .pushUpdate _ st => 0 ≤ st.value
  | .addWait w => 0 ≤ w.value
  | .addFrozen f => 0 ≤ f.value
  | .addOrder o => 0 ≤ o.v0 ∧ 0 ≤ o.v1
  | .fillOrder o d0 d1 => d0 ≤ o.v0 ∧ d1 ≤ o.v1
  | _ => True

instance (s : State) (p : Prim) : Decidable (PrimSafe s p) := by
  cases p <;> unfold PrimSafe <;> infer_instance

/-- Sequential safety of a plan: every primitive is safe in the state it is applied to. -/
def PlanSafe : State → List Prim → Prop
  | _, [] => True
  | s, p :: t => PrimSafe s p ∧ PlanSafe (p.apply s) t

instance : (s : State) → (ps : List Prim) → Decidable (PlanSafe s ps)
  | _, [] => isTrue trivial
  | s, p :: t =>
    have := instDecidablePlanSafe (p.apply s) t
    by unfold PlanSafe; infer_instance

theorem optProp_iff {α : Type} {o : Option α} {q : α → Prop} : optProp o q ↔ ∀ x, o = some x → q x := by
  cases o <;> simp

theorem optProp.imp {α : Type} {o : Option α} {q r : α → Prop} (h : optProp o q) (hi : ∀ x, q x → r x) : optProp o r := by
  cases o
  · trivial
  · exact hi _ h

theorem mem_eraseFirst {α : Type} (p : α → Bool) (l : List α) (x : α) (h : x ∈ eraseFirst p l) : x ∈ l := by
  induction l with
  | nil => exact h
  | cons y t ih =>
    simp only [eraseFirst] at h
    split at h
    · exact List.mem_cons_of_mem _ h
    · exact (List.mem_cons.mp h).elim (· ▸ List.mem_cons_self ..) fun h => List.mem_cons_of_mem _ (ih h)

/-- Updating the first match with a function that keeps a property of members keeps it for every member. -/
theorem all_updFirst {α : Type} (Q : α → Prop) (p : α → Bool) (g : α → α) (l : List α)
    (h : ∀ x ∈ l, Q x) (hg : ∀ y, findFirst p l = some y → Q (g y)) : ∀ x ∈ updFirst p g l, Q x := by
  intro x hx
  rcases mem_updFirst_find p g l x hx with h' | ⟨y, hy, rfl⟩
  · exact h x h'
  · exact hg y hy

theorem all_append_single {α : Type} (Q : α → Prop) (l : List α) (y : α) (h : ∀ x ∈ l, Q x) (hy : Q y) : ∀ x ∈ l ++ [y], Q x := by
  intro x hx
  rcases List.mem_append.mp hx with hx | hx
  · exact h x hx
  · exact List.mem_singleton.mp hx ▸ hy

abbrev StakesOk (cd : Candidate) : Prop := (∀ st ∈ cd.stakes, 0 ≤ st.value) ∧ (∀ st ∈ cd.updates, 0 ≤ st.value)
abbrev CoinOk (ci : CoinInfo) : Prop := 0 ≤ ci.volume ∧ 0 ≤ ci.reserve ∧ ci.volume ≤ ci.maxSupply

/-- Changing the first matching candidate in a way that keeps its stakes and updates in range keeps all of them in range. -/
theorem cands_update (s : State) (hok : AmountsOk s) (p : Candidate → Bool) (g : Candidate → Candidate)
    (hg : ∀ cd, findFirst p s.candidates = some cd → StakesOk cd → StakesOk (g cd)) :
    ∀ cd ∈ updFirst p g s.candidates, StakesOk cd :=
  all_updFirst StakesOk p g _ hok.stakes fun y hy => hg y hy (hok.stakes y (findFirst_mem _ _ _ hy).1)

/-- Settings of a candidate (anything that keeps its stakes and updates) keep the stakes in range. -/
theorem cands_setting (s : State) (hok : AmountsOk s) (p : Candidate → Bool) (g : Candidate → Candidate)
    (hg : ∀ cd, (g cd).stakes = cd.stakes ∧ (g cd).updates = cd.updates) :
    ∀ cd ∈ updFirst p g s.candidates, StakesOk cd :=
  cands_update s hok p g fun cd _ h => by unfold StakesOk; rw [(hg cd).1, (hg cd).2]; exact h

/-- One step of a plan: a primitive whose guard holds preserves `AmountsOk`.  The side condition matters for `fillOrder` only, whose
    guard speaks of the order the primitive names and not of the stored one. -/
theorem AmountsOk.prim {s : State} (hok : AmountsOk s) {p : Prim} (hs : PrimSafe s p)
    (hfill : ∀ o d0 d1, p = .fillOrder o d0 d1 → findFirst (·.id == o.id) s.orders = some o) : AmountsOk (p.apply s) := by
  cases p with
  | addBal a c v => exact hok.addBal hs
  | addVolume c v => exact hok.addVolume (optProp_iff.mp hs)
  | addReserve c v =>
    refine { hok with balances := hok.balances, coins := all_updFirst CoinOk _ _ _ hok.coins fun y hy => ?_ }
    have := hok.coins y (findFirst_mem _ _ _ hy).1
    exact ⟨this.1, optProp_iff.mp hs y hy, this.2.2⟩
  | setCoinOwner sym a => exact hok.setCoinOwner sym a
  | bumpVersion c v =>
    exact { hok with balances := hok.balances,
                     coins := all_updFirst CoinOk _ _ _ hok.coins fun y hy => hok.coins y (findFirst_mem _ _ _ hy).1 }
  | createCoin ci => exact { hok with balances := hok.balances, coins := all_append_single CoinOk _ ci hok.coins hs }
  | addPool c0 c1 d0 d1 =>
    exact { hok with balances := hok.balances, pools := all_updFirst _ _ _ _ hok.pools (optProp_iff.mp hs) }
  | createPool p => exact { hok with balances := hok.balances, pools := all_append_single _ _ p hok.pools hs }
  | addSlashed v => exact { hok with balances := hok.balances, slashed := hs }
  | addAccum pk v =>
    exact { hok with balances := hok.balances, validators := all_updFirst _ _ _ _ hok.validators (optProp_iff.mp hs) }
  | setToDrop pk =>
    exact { hok with balances := hok.balances,
                     validators := all_updFirst _ _ _ _ hok.validators fun y hy => hok.validators y (findFirst_mem _ _ _ hy).1 }
  | addStake cand owner coin v =>
    refine { hok with balances := hok.balances, stakes := cands_update s hok _ _ fun cd hcd h => ⟨?_, h.2⟩ }
    exact all_updFirst _ _ _ _ h.1 (optProp_iff.mp (optProp_iff.mp hs cd hcd))
  | newStake cand st =>
    exact { hok with balances := hok.balances,
                     stakes := cands_update s hok _ _ fun cd _ h => ⟨all_append_single _ _ st h.1 hs, h.2⟩ }
  | delStake cand st =>
    exact { hok with balances := hok.balances,
                     stakes := cands_update s hok _ _ fun cd _ h => ⟨fun x hx => h.1 x (mem_eraseFirst _ _ _ hx), h.2⟩ }
  | pushUpdate cand st =>
    exact { hok with balances := hok.balances,
                     stakes := cands_update s hok _ _ fun cd _ h => ⟨h.1, all_append_single _ _ st h.2 hs⟩ }
  | addCandidate cd =>
    exact { hok with balances := hok.balances, stakes := all_append_single StakesOk _ _ hok.stakes ⟨nofun, nofun⟩ }
  | setCandStatus | editCandidate | setCandPubKey | setCandCommission =>
    exact { hok with balances := hok.balances, stakes := cands_setting s hok _ _ fun _ => ⟨rfl, rfl⟩ }
  | addWait w => exact { hok with balances := hok.balances, waitlist := all_append_single _ _ w hok.waitlist hs }
  | delWait w => exact { hok with balances := hok.balances, waitlist := fun x hx => hok.waitlist x (mem_eraseFirst _ _ _ hx) }
  | addFrozen f => exact { hok with balances := hok.balances, frozen := all_append_single _ _ f hok.frozen hs }
  | delFrozen f => exact { hok with balances := hok.balances, frozen := fun x hx => hok.frozen x (mem_eraseFirst _ _ _ hx) }
  | addOrder o => exact { hok with balances := hok.balances, orders := all_append_single _ _ o hok.orders hs }
  | delOrder o => exact { hok with balances := hok.balances, orders := fun x hx => hok.orders x (mem_eraseFirst _ _ _ hx) }
  | fillOrder o d0 d1 =>
    refine { hok with balances := hok.balances, orders := all_updFirst _ _ _ _ hok.orders fun y hy => ?_ }
    cases (hfill o d0 d1 rfl).symm.trans hy
    exact ⟨Int.sub_nonneg_of_le hs.1, Int.sub_nonneg_of_le hs.2⟩
  | setNonce | addRewards | addEmission | useCheck | note | setLockStake | setMultisig | addHalt | addCVote | addUVote | setNextOrder => exact { hok with balances := hok.balances }

/-- **One step.** A primitive whose side condition and guard hold preserves `AmountsOk`. -/
theorem primSafe_preserves (s : State) (p : Prim) (hok : AmountsOk s) (hside : p.ok s = true) (hs : PrimSafe s p) :
    AmountsOk (p.apply s) :=
  hok.prim hs fun o d0 d1 e => by subst e; simpa [Prim.ok] using hside

/-- A primitive that `Move.admin` may carry changes no amount. -/
theorem AmountsOk.admin {s : State} (hok : AmountsOk s) {p : Prim} (h : p.isAdmin = true) : AmountsOk (p.apply s) :=
  hok.prim (by cases p <;> first | trivial | cases h) fun _ _ _ e => by subst e; cases h

/-! ### Balances along a walk: a credit lowers no balance, a debit lowers one -/

theorem le_balance_credit (s : State) (a : Addr) (c : Coin) {v : Int} (hv : 0 ≤ v) (x : Addr) (k : Coin) :
    balanceOf s x k ≤ balanceOf ((Prim.addBal a c v).apply s) x k := by
  rw [apply_balance', Prim.balDelta']; split <;> omega

theorem balance_debit (s : State) (a : Addr) (c : Coin) (v : Int) (x : Addr) (k : Coin) :
    balanceOf ((Prim.addBal a c (-v)).apply s) x k = balanceOf s x k - if x = a ∧ k = c then v else 0 := by
  rw [apply_balance', Prim.balDelta']; split <;> split <;> omega

theorem balance_addBal_ne (s : State) (a : Addr) (c : Coin) (v : Int) (x : Addr) {k : Coin} (h : c ≠ k) :
    balanceOf ((Prim.addBal a c v).apply s) x k = balanceOf s x k := by
  rw [apply_balance', Prim.balDelta', if_neg fun e => h e.2, Int.add_zero]

/-- **Core lemma (C02).** Checked application of a plan every primitive of which is safe where it is applied preserves `AmountsOk`. -/
theorem planSafe_preserves (s s' : State) (ps : List Prim) (hsafe : PlanSafe s ps) (hok : AmountsOk s)
    (h : applyChecked s ps = some s') : AmountsOk s' := by
  induction ps generalizing s with
  | nil => cases h; exact hok
  | cons p t ih =>
    obtain ⟨hside, ht⟩ := applyChecked_cons _ _ _ _ h
    exact ih _ hsafe.2 (primSafe_preserves s p hok hside hsafe.1) ht

end Minter
