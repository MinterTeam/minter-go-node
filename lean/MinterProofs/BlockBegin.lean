import MinterModel.Block
import MinterProofs.Begin
/-
  BeginBlock leaves the emission counter alone and ends with the fee pool it started the block with (zero).
  (The value side of BeginBlock is `begin_conserves`, Props/C18.lean.)
-/
namespace Minter

structure MintFrame (s s' : State) : Prop where
  emission : s'.emission = s.emission
  pool : s'.rewardsPool = s.rewardsPool

theorem MintFrame.refl (s : State) : MintFrame s s := ⟨rfl, rfl⟩

theorem MintFrame.trans {a b c : State} (h1 : MintFrame a b) (h2 : MintFrame b c) : MintFrame a c :=
  ⟨h2.emission.trans h1.emission, h2.pool.trans h1.pool⟩

theorem beginBlock_mint (P : Params) (o : Oracle) (s s' : State) (r : BeginReq) (grace : Bool) (ev : List BEvent)
    (hr : beginBlock P o s r grace = .ok (s', ev)) : s'.emission = s.emission ∧ s'.rewardsPool = 0 := by
  obtain ⟨sA, evA, sB, evB, evC, hA, hB, hC⟩ := beginBlock_phases hr
  obtain ⟨s1, h1, rfl⟩ := maturityPhase_inv hC
  -- a step of one of the three loops leaves the state alone, rewrites validators, candidates, frozen funds, coins and the
  -- slashed total, or applies one ledger primitive that is neither `addEmission` nor `addRewards`
  have fA := absencePhase_lift MintFrame.refl MintFrame.trans (fun _ _ => ⟨rfl, rfl⟩)
    (fun h => by rcases setAbsent_cases h with rfl | ⟨_, rfl⟩ | ⟨_, rfl⟩ <;> exact ⟨rfl, rfl⟩) hA
  have fB := byzPhase_lift MintFrame.refl MintFrame.trans
    (fun h => by rcases byzStep_cases h with ⟨_, rfl⟩ | ⟨_, _, _, _, _, _, _, _, rfl⟩ <;> exact ⟨rfl, rfl⟩) hB
  have fC := matureAll_lift MintFrame.refl MintFrame.trans
    (fun _ _ _ _ _ h => by rcases matureOne_cases h with ⟨_, rfl⟩ | ⟨_, _, rfl⟩ | ⟨_, _, _, rfl⟩ <;> exact ⟨rfl, rfl⟩) h1
  exact ⟨(fC.emission.trans fB.emission).trans fA.emission, (fC.pool.trans fB.pool).trans fA.pool⟩

end Minter
