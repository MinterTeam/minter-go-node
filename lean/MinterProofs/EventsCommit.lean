import MinterProofs.Events
/-
  `CommitEvents` and `LoadEvents` in terms of the first-appearance lists `ks` / `as` of Events.lean: a commit grows the lists
  by the batch's new keys and addresses, every stored record is `Stable` under growth, and `Inv` (cache loaded, or empty
  after a restart) is what survives every operation.
-/
namespace Minter
namespace Ev

/-- `NewRole` does not panic -/
def Event.roleOK : Event → Prop
  | .reward role _ _ _ _ => role < 4
  | _ => True

instance (e : Event) : Decidable e.roleOK := by
  cases e <;> unfold Event.roleOK <;> infer_instance

theorem Event.WF.roleOK {e : Event} (h : e.WF) : e.roleOK := by
  cases e <;> simp only [Event.WF, Event.roleOK] at h ⊢
  exact h.1

theorem seenKeysB_prefix (b : List Event) (ks : List Nat) : ks <+: seenKeysB ks b :=
  prefix_foldl (fun ks (e : Event) => foldl_addKey_prefix e.keys ks) b ks

theorem seenAddrsB_prefix (b : List Event) (as : List Nat) : as <+: seenAddrsB as b :=
  prefix_foldl (fun as (e : Event) => foldl_addKey_prefix e.addrs as) b as

theorem ofNat_natAbs {a : Int} (h : 0 ≤ a) : Int.ofNat a.natAbs = a := by
  simpa using Int.natAbs_of_nonneg h

theorem lt_of_getElem?_some {l : List Nat} {i a : Nat} (h : l[i]? = some a) : i < l.length :=
  (List.getElem?_eq_some_iff.mp h).1

theorem u32_of_lt {n : Nat} (h : n < 4294967296) : u32 n = n := Nat.mod_eq_of_lt h

variable {st st' : EvStore} {ks as : List Nat}

/-- The only panic in the model of the commit loop is `NewRole` on an unknown role. -/
theorem compactEv_isSome (st : EvStore) {e : Event} (h : e.roleOK) : (compactEv st e).isSome := by
  cases e with
  | reward role addr amount pk fc => simp only [compactEv, if_pos (show role < 4 from h)]; rfl
  | _ => rfl

/-- One event: each address, then each key, is interned (`saveAddress_spec`, `savePubKey_spec`); the record holds the ids they
    got, so it is valid for the grown lists and, for an event the node can emit, expands back to it. -/
theorem compactEv_spec {r : Rec} (g : Good st ks as) (e : Event)
    (hk : (e.keys.foldl addKey ks).length ≤ 65535) (ha : (e.addrs.foldl addKey as).length ≤ 4294967295)
    (hc : compactEv st e = some (st', r)) :
    Good st' (e.keys.foldl addKey ks) (e.addrs.foldl addKey as) ∧ st'.disk.blocks = st.disk.blocks ∧
      RecValid (e.keys.foldl addKey ks) (e.addrs.foldl addKey as) r ∧
      (e.WF → expandA (e.keys.foldl addKey ks) (e.addrs.foldl addKey as) r = some e) := by
  rcases e with _ | _ | _ | ⟨_, _, _, _ | _⟩ | _ | _ | _ | _ | _ | _ | _ | _ <;>
    simp only [Event.keys, Event.addrs, List.foldl_cons, List.foldl_nil] at hk ha ⊢
  case reward =>
    obtain ⟨st1, aid, hsa, g1, b1, i1⟩ := saveAddress_spec g _ ha
    obtain ⟨st2, pid, hsp, g2, b2, i2⟩ := savePubKey_spec g1 _ hk
    simp only [compactEv, hsa, hsp] at hc
    split at hc <;> cases hc
    refine ⟨g2, b2.trans b1, ⟨i2 ▸ rfl, lt_of_getElem?_some i1⟩, fun wf => ?_⟩
    simp only [expandA, i2, i1, Option.getD_some, u32_of_lt wf.2.2, ofNat_natAbs wf.2.1]
  case slash | kick | unbond.some =>
    obtain ⟨st1, aid, hsa, g1, b1, i1⟩ := saveAddress_spec g _ ha
    obtain ⟨st2, pid, hsp, g2, b2, i2⟩ := savePubKey_spec g1 _ hk
    simp only [compactEv, hsa, hsp] at hc
    cases hc
    refine ⟨g2, b2.trans b1, by simp [RecValid, i2, lt_of_getElem?_some i1], fun wf => ?_⟩
    simp only [expandA, i2, i1, Option.getD_some, u32_of_lt wf.2, ofNat_natAbs wf.1]
  case unbond.none | unlock | orderExpired =>
    obtain ⟨st1, aid, hsa, g1, b1, i1⟩ := saveAddress_spec g _ ha
    simp only [compactEv, hsa, savePubKey] at hc
    cases hc
    refine ⟨g1, b1, by simp [RecValid, lt_of_getElem?_some i1], fun wf => ?_⟩
    simp only [expandA, kget_zero, i1, Option.getD_some, ofNat_natAbs wf.1]
    simp [u32_of_lt, wf.2]
  case jail =>
    obtain ⟨st2, pid, hsp, g2, b2, i2⟩ := savePubKey_spec g _ hk
    simp only [compactEv, hsp] at hc
    cases hc
    exact ⟨g2, b2, by simp [RecValid, i2], fun _ => by simp only [expandA, i2, Option.getD_some]⟩
  case move f t =>
    obtain ⟨st1, aid, hsa, g1, b1, i1⟩ := saveAddress_spec g _ ha
    obtain ⟨st2, fid, hsf, g2, b2, i2⟩ := savePubKey_spec g1 f (Nat.le_trans (addKey_prefix _ t).length_le hk)
    obtain ⟨st3, tid, hst, g3, b3, i3⟩ := savePubKey_spec g2 t hk
    -- the id of `f` keeps its meaning when `t` is interned
    obtain ⟨u, hu⟩ := addKey_prefix (addKey ks f) t
    replace i2 := hu ▸ (kget_append_isSome (t := u) (by rw [i2]; rfl)).trans i2
    simp only [compactEv, hsa, hsf, hst] at hc
    cases hc
    refine ⟨g3, (b3.trans b2).trans b1, ⟨i2 ▸ rfl, i3 ▸ rfl, lt_of_getElem?_some i1⟩, fun wf => ?_⟩
    simp only [expandA, i2, i3, i1, Option.getD_some, u32_of_lt wf.2, ofNat_natAbs wf.1]
  case removeCandidate | updateNetwork | updateCommissions | updatedBlockReward =>
    cases hc
    exact ⟨g, rfl, trivial, fun _ => rfl⟩

theorem seenKeysB_cons (ks : List Nat) (e : Event) (b : List Event) :
    seenKeysB ks (e :: b) = seenKeysB (e.keys.foldl addKey ks) b := rfl

theorem seenAddrsB_cons (as : List Nat) (e : Event) (b : List Event) :
    seenAddrsB as (e :: b) = seenAddrsB (e.addrs.foldl addKey as) b := rfl

theorem compactAll_isSome : ∀ (b : List Event) (st : EvStore), (∀ e ∈ b, e.roleOK) → (compactAll st b).isSome
  | [], _, _ => rfl
  | e :: b, st, h => by
    obtain ⟨p, hp⟩ := Option.isSome_iff_exists.mp (compactEv_isSome st (h e List.mem_cons_self))
    obtain ⟨q, hq⟩ := Option.isSome_iff_exists.mp (compactAll_isSome b p.1 fun e' he' => h e' (List.mem_cons_of_mem _ he'))
    simp only [compactAll, hp, hq]; rfl

theorem compactAll_cons_some {e : Event} {b : List Event} {rs : List Rec} (h : compactAll st (e :: b) = some (st', rs)) :
    ∃ st1 r rs', compactEv st e = some (st1, r) ∧ compactAll st1 b = some (st', rs') ∧ rs = r :: rs' := by
  simp only [compactAll] at h
  split at h
  · cases h
  · split at h
    · cases h
    · cases h; exact ⟨_, _, _, ‹_›, ‹_›, rfl⟩

theorem compactAll_spec (b : List Event) : ∀ {st st' : EvStore} {ks as : List Nat} {rs : List Rec}, Good st ks as →
    (seenKeysB ks b).length ≤ 65535 → (seenAddrsB as b).length ≤ 4294967295 → compactAll st b = some (st', rs) →
    Good st' (seenKeysB ks b) (seenAddrsB as b) ∧ st'.disk.blocks = st.disk.blocks ∧
      (∀ r ∈ rs, Stable (seenKeysB ks b) (seenAddrsB as b) r) ∧
      ((∀ e ∈ b, e.WF) → expandAllA (seenKeysB ks b) (seenAddrsB as b) rs = some b) := by
  induction b with
  | nil =>
    intro st st' ks as rs g _ _ hc
    cases hc
    exact ⟨g, rfl, fun _ hr => absurd hr List.not_mem_nil, fun _ => rfl⟩
  | cons e b ih =>
    intro st st' ks as rs g hk ha hc
    rw [seenKeysB_cons] at hk ⊢
    rw [seenAddrsB_cons] at ha ⊢
    obtain ⟨st1, r, rs', h1, h2, rfl⟩ := compactAll_cons_some hc
    have pk := seenKeysB_prefix b (e.keys.foldl addKey ks)
    have pa := seenAddrsB_prefix b (e.addrs.foldl addKey as)
    obtain ⟨g1, b1, v1, x1⟩ := compactEv_spec g e (Nat.le_trans pk.length_le hk) (Nat.le_trans pa.length_le ha) h1
    obtain ⟨g2, b2, v2, x2⟩ := ih g1 hk ha h2
    refine ⟨g2, b2.trans b1, fun r' hr' => ?_, fun wf => ?_⟩
    · rcases List.mem_cons.mp hr' with rfl | hr'
      · exact Stable.mono v1.stable pk pa
      · exact v2 r' hr'
    · simp only [expandAllA, Stable.eq v1.stable pk pa, x1 (wf e List.mem_cons_self), x2 fun e' he' => wf e' (List.mem_cons_of_mem _ he')]

/-! ### The invariant of the whole store (cache loaded or just restarted) -/

structure Inv (st : EvStore) (ks as : List Nat) : Prop where
  dp : DW st.disk.pk st.disk.pkCount 1 ks
  da : DW st.disk.ad st.disk.adCount 0 as
  cache : (CW st.cache.idPub st.cache.pubId 1 [] ∧ CW st.cache.idAddr st.cache.addrId 0 []) ∨
    (CW st.cache.idPub st.cache.pubId 1 ks ∧ CW st.cache.idAddr st.cache.addrId 0 as)
  recs : ∀ h rs, st.disk.blocks.get? h = some rs → ∀ r ∈ rs, Stable ks as r

theorem Inv_empty : Inv EvStore.empty [] [] :=
  ⟨DW.empty _ 1, DW.empty _ 0, .inl ⟨CW.empty 1, CW.empty 0⟩, fun h rs hh => by simp [EvStore.empty] at hh⟩

theorem Good.inv (g : Good st ks as) (hr : ∀ h rs, st.disk.blocks.get? h = some rs → ∀ r ∈ rs, Stable ks as r) :
    Inv st ks as :=
  ⟨g.dp, g.da, .inr ⟨g.pw, g.aw⟩, hr⟩

/-- `loadCache` reloads only when the key cache is empty (so with no validator key yet it reloads the addresses over a loaded
    cache); it is then that `count+1` must not wrap. -/
theorem loadCache_inv (i : Inv st ks as) (hk : st.cache.idPub.len = 0 → ks.length ≤ 65534) : Good (loadCache st) ks as := by
  unfold loadCache
  split
  · obtain ⟨d1, a1, b1⟩ := loadPubKeys_frame st
    obtain ⟨d2, p2, q2⟩ := loadAddresses_frame (loadPubKeys st)
    have da := i.da
    have aw := i.cache.imp And.right And.right
    rw [← d1] at da
    rw [← a1, ← b1] at aw
    exact ⟨by rw [p2, q2]; exact loadPubKeys_spec i.dp (i.cache.imp And.left And.left) (hk ‹_›), loadAddresses_spec da aw,
      by rw [d2, d1]; exact i.dp, by rw [d2]; exact da⟩
  · rcases i.cache with c | c
    · exact absurd c.1.flen ‹_›
    · exact ⟨c.1, c.2, i.dp, i.da⟩

def loadA (ks as : List Nat) : Option (List Rec) → Loaded
  | none => .absent
  | some rs =>
    match expandAllA ks as rs with
    | none => .panic
    | some es => .ok es

theorem load_eq (i : Inv st ks as) (hk : st.cache.idPub.len = 0 → ks.length ≤ 65534) (h : Nat) :
    load st h = loadA ks as (st.disk.blocks.get? h) := by
  have g := loadCache_inv i hk
  simp only [load, loadCache_disk]
  cases st.disk.blocks.get? h with
  | none => rfl
  | some rs => simp only [expandAll_eq g.pw g.aw]; rfl

theorem Good.loaded (g : Good st ks as) (h : st.cache.idPub.len = 0) : ks.length ≤ 65534 :=
  g.pw.flen ▸ h ▸ Nat.zero_le _

theorem commit_isSome (st : EvStore) (h : Nat) {b : List Event} (hb : ∀ e ∈ b, e.roleOK) : (commit st h b).isSome := by
  obtain ⟨p, hp⟩ := Option.isSome_iff_exists.mp (compactAll_isSome b (loadCache st) hb)
  simp only [commit, hp]; rfl

theorem commit_eq_some {h : Nat} {b : List Event} (hc : commit st h b = some st') :
    ∃ st1 rs, compactAll (loadCache st) b = some (st1, rs) ∧
      st' = { st1 with disk := { st1.disk with blocks := st1.disk.blocks.set h rs } } := by
  unfold commit at hc
  split at hc
  · cases hc
  · cases hc; exact ⟨_, _, ‹_›, rfl⟩

/-- In-process the 65 535th key is still fine (`hk`); the bound of a reload is one less (`hk0`). -/
theorem commit_inv (i : Inv st ks as) (hk0 : st.cache.idPub.len = 0 → ks.length ≤ 65534) {h : Nat} {b : List Event}
    (hk : (seenKeysB ks b).length ≤ 65535) (ha : (seenAddrsB as b).length ≤ 4294967295) (hc : commit st h b = some st') :
    Good st' (seenKeysB ks b) (seenAddrsB as b) ∧ Inv st' (seenKeysB ks b) (seenAddrsB as b) ∧
      (∀ h', h' ≠ h → st'.disk.blocks.get? h' = st.disk.blocks.get? h') ∧
      ((∀ e ∈ b, e.WF) → load st' h = .ok b) := by
  obtain ⟨st1, rs, hca, rfl⟩ := commit_eq_some hc
  obtain ⟨g1, b1, v1, x1⟩ := compactAll_spec b (loadCache_inv i hk0) hk ha hca
  rw [loadCache_disk] at b1
  have g' : Good { st1 with disk := { st1.disk with blocks := st1.disk.blocks.set h rs } } _ _ := ⟨g1.pw, g1.aw, g1.dp, g1.da⟩
  have i' := g'.inv fun h' rs' hg r hr' => by
    rw [show _ = (st1.disk.blocks.set h rs).get? h' from rfl, Tbl.get?_set] at hg
    split at hg
    · cases hg; exact v1 r hr'
    · exact (i.recs h' rs' (b1 ▸ hg) r hr').mono (seenKeysB_prefix b ks) (seenAddrsB_prefix b as)
  refine ⟨g', i', fun h' hne => ?_, fun wf => ?_⟩
  · show (st1.disk.blocks.set h rs).get? h' = _
    rw [Tbl.get?_set, if_neg (Ne.symm hne), b1]
  · rw [load_eq i' g'.loaded]
    show loadA _ _ ((st1.disk.blocks.set h rs).get? h) = _
    rw [Tbl.get?_set, if_pos rfl]
    simp only [loadA, x1 wf]

end Ev
end Minter
