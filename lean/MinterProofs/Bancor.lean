import MinterModel.Bancor
import Mathlib.Tactic.Linarith
import Mathlib.Tactic.Ring
/-
  Every certificate of `MinterModel/Bancor.lean` compares a threshold `T = X^m·S^n`, `X = V ∓ amount`, with `(S ∓ x)^n·V^m`,
  where `(S, n, V, m)` is `(R, c, v, 100)` for saleReturn and purchaseAmount and `(v, 100, R, c)` for purchaseReturn and
  saleAmount.  There are two shapes, `SaleCert` (`S − x`) and `PurchaseCert` (`S + x`).  Non-negativity and monotonicity of all
  four functions are instances of one comparison per shape: a certified lower bound against a certified upper bound at a larger
  amount (`*_lo_lt_hi`).  The round trips rest on Bernoulli's inequality in integer form (`roundtrip_key`).
-/
namespace Minter

/-! Mathlib's order lemmas for powers, at `Int` (stated here so that no instance search is repeated at the uses). -/

theorem ipow_le {a b : Int} (ha : 0 ≤ a) (hab : a ≤ b) (n : Nat) : a ^ n ≤ b ^ n := pow_le_pow_left₀ ha hab n

theorem ipow_lt {a b : Int} (ha : 0 ≤ a) (hab : a < b) {n : Nat} (hn : 0 < n) : a ^ n < b ^ n :=
  pow_lt_pow_left₀ hab ha hn.ne'

/-- Comparing powers compares the bases, the larger one being non-negative (an even power of a negative base would compare
    the wrong way: this is what the guards of the certificates are for). -/
theorem lt_of_ipow_lt {a b : Int} {n : Nat} (hb : 0 ≤ b) (h : a ^ n < b ^ n) : a < b := lt_of_pow_lt_pow_left₀ n hb h

theorem lt_of_ipow_mul_lt {A B K : Int} {n : Nat} (hK : 0 < K) (hB : 0 ≤ B) (h : A ^ n * K < B ^ n * K) : A < B :=
  lt_of_ipow_lt hB (Int.lt_of_mul_lt_mul_right h hK.le)

/-- The threshold of a certificate is monotone in the base that carries the amount. -/
theorem ipow_mul_le {X X' S : Int} (hX : 0 ≤ X) (hXX : X ≤ X') (hS : 0 ≤ S) (m n : Nat) : X ^ m * S ^ n ≤ X' ^ m * S ^ n :=
  Int.mul_le_mul_of_nonneg_right (ipow_le hX hXX m) (Int.pow_nonneg hS)

/-- For `crr = 100`, where both exponents are equal. -/
theorem ipow_mul_ipow_le {A B C D : Int} (h0 : 0 ≤ A * B) (h : A * B ≤ C * D) (n : Nat) : A ^ n * B ^ n ≤ C ^ n * D ^ n := by
  rw [← mul_pow, ← mul_pow]; exact ipow_le h0 h n

theorem ipow_mul_ipow_lt {A B C D : Int} (h0 : 0 ≤ A * B) (h : A * B < C * D) {n : Nat} (hn : 0 < n) :
    A ^ n * B ^ n < C ^ n * D ^ n := by
  rw [← mul_pow, ← mul_pow]; exact ipow_lt h0 h hn

/-! ### The two shapes of certificate -/

/-- Sales, `lo ≤ S·(1 − (X/V)^(m/n)) < hi` with the powers cleared: `saleReturnCert` and `saleAmountCert`. -/
def SaleCert (S V X : Int) (m n : Nat) (lo hi : Int) : Prop :=
  (lo ≤ 0 ∨ (lo ≤ S ∧ X ^ m * S ^ n ≤ (S - lo) ^ n * V ^ m)) ∧ (S < hi ∨ (S - hi) ^ n * V ^ m < X ^ m * S ^ n)

/-- Purchases, `lo ≤ S·((X/V)^(m/n) − 1) < hi`: `purchaseReturnCert` and `purchaseAmountCert`. -/
def PurchaseCert (S V X : Int) (m n : Nat) (lo hi : Int) : Prop :=
  (lo ≤ 0 ∨ (S + lo) ^ n * V ^ m ≤ X ^ m * S ^ n) ∧ (0 ≤ S + hi ∧ X ^ m * S ^ n < (S + hi) ^ n * V ^ m)

theorem saleReturnCert_iff (v R : Int) (c : Nat) (a r δ : Int) :
    saleReturnCert v R c a r δ = true ↔ SaleCert R v (v - a) 100 c (r - δ) (r + 1 + δ) := by
  unfold saleReturnCert ipow SaleCert
  simp only [Bool.and_eq_true, Bool.or_eq_true, decide_eq_true_eq]

theorem saleAmountCert_iff (v R : Int) (c : Nat) (w r δ : Int) :
    saleAmountCert v R c w r δ = true ↔ SaleCert v R (R - w) c 100 (r - δ) (r + 1 + δ) := by
  unfold saleAmountCert ipow SaleCert
  simp only [Bool.and_eq_true, Bool.or_eq_true, decide_eq_true_eq]

theorem purchaseReturnCert_iff (v R : Int) (c : Nat) (d r δ : Int) :
    purchaseReturnCert v R c d r δ = true ↔ PurchaseCert v R (R + d) c 100 (r - δ) (r + 1 + δ) := by
  unfold purchaseReturnCert ipow PurchaseCert
  simp only [Bool.and_eq_true, Bool.or_eq_true, decide_eq_true_eq]

theorem purchaseAmountCert_iff (v R : Int) (c : Nat) (w r δ : Int) :
    purchaseAmountCert v R c w r δ = true ↔ PurchaseCert R v (w + v) 100 c (r - δ) (r + 1 + δ) := by
  unfold purchaseAmountCert ipow PurchaseCert
  simp only [Bool.and_eq_true, Bool.or_eq_true, decide_eq_true_eq]

/-- Sales, true value `S·(1 − t)`: a strict upper bound `hi` certified against the threshold `T`, and `T ≤ (S − x)^n·K` for
    some `x ≤ S` (`x = 0`: the threshold at amount 0; `x = lo`: a certified lower bound at a smaller amount). -/
theorem sale_lt {S K T x hi : Int} {n : Nat} (hK : 0 < K) (hx : x ≤ S) (hT : T ≤ (S - x) ^ n * K)
    (hu : S < hi ∨ (S - hi) ^ n * K < T) : x < hi :=
  hu.elim (lt_of_le_of_lt hx) fun hu =>
    Int.lt_of_sub_lt_sub_left (lt_of_ipow_mul_lt hK (Int.sub_nonneg_of_le hx) (lt_of_lt_of_le hu hT))

/-- Purchases, true value `S·(t − 1)`: the same with `(S + x)^n·K ≤ T`. -/
theorem purchase_lt {S K T x hi : Int} {n : Nat} (hK : 0 < K) (hT : (S + x) ^ n * K ≤ T)
    (hu : 0 ≤ S + hi ∧ T < (S + hi) ^ n * K) : x < hi :=
  Int.lt_of_add_lt_add_left (lt_of_ipow_mul_lt hK hu.1 (lt_of_le_of_lt hT hu.2))

/-- All four thresholds are `X^m·S^n` with `K = V^m`, `X = V ∓ amount`.  Sales: a lower bound `lo` certified at `X`, an upper
    bound `hi` at `X' ≤ X` (a larger amount): `lo < hi`.  With `lo = 0` and `X' = X` this is `0 < hi`. -/
theorem sale_lo_lt_hi {S V X X' lo hi : Int} {m n : Nat} (hV : 0 < V) (hS : 0 ≤ S) (hX' : 0 ≤ X') (hXX : X' ≤ X)
    (hXV : X ≤ V) (hl : lo ≤ 0 ∨ (lo ≤ S ∧ X ^ m * S ^ n ≤ (S - lo) ^ n * V ^ m))
    (hu : S < hi ∨ (S - hi) ^ n * V ^ m < X' ^ m * S ^ n) : lo < hi := by
  have hK : 0 < V ^ m := Int.pow_pos hV
  have hTT := ipow_mul_le hX' hXX hS m n
  rcases hl with hl | ⟨hlS, hl⟩
  · refine lt_of_le_of_lt hl (sale_lt hK hS ?_ hu)
    rw [Int.sub_zero, mul_comm (S ^ n)]
    exact hTT.trans (ipow_mul_le (hX'.trans hXX) hXV hS m n)
  · exact sale_lt hK hlS (hTT.trans hl) hu

theorem purchase_lo_lt_hi {S V X X' lo hi : Int} {m n : Nat} (hV : 0 < V) (hS : 0 ≤ S) (hVX : V ≤ X) (hXX : X ≤ X')
    (hl : lo ≤ 0 ∨ (S + lo) ^ n * V ^ m ≤ X ^ m * S ^ n)
    (hu : 0 ≤ S + hi ∧ X' ^ m * S ^ n < (S + hi) ^ n * V ^ m) : lo < hi := by
  have hK : 0 < V ^ m := Int.pow_pos hV
  have hTT := ipow_mul_le (hV.le.trans hVX) hXX hS m n
  rcases hl with hl | hl
  · refine lt_of_le_of_lt hl (purchase_lt hK ?_ hu)
    rw [Int.add_zero, mul_comm (S ^ n)]
    exact (ipow_mul_le hV.le hVX hS m n).trans hTT
  · exact purchase_lt hK (hl.trans hTT) hu

/-! ### Results that are exact: amount 0, and `crr = 100` -/

/-- At amount 0 the threshold is `V^m·S^n`, and `0 ≤ · < 1` is certified (the lower bound `0` needs no power). -/
theorem sale_zero {S V : Int} {m n : Nat} (hn : 0 < n) (hS : 0 < S) (hV : 0 < V) : SaleCert S V V m n 0 1 := by
  refine ⟨Or.inl le_rfl, Or.inr ?_⟩
  rw [mul_comm (V ^ m)]
  exact Int.mul_lt_mul_of_pos_right (ipow_lt (by omega) (by omega) hn) (Int.pow_pos hV)

theorem purchase_zero {S V : Int} {m n : Nat} (hn : 0 < n) (hS : 0 < S) (hV : 0 < V) : PurchaseCert S V V m n 0 1 := by
  refine ⟨Or.inl le_rfl, by omega, ?_⟩
  rw [mul_comm (V ^ m)]
  exact Int.mul_lt_mul_of_pos_right (ipow_lt hS.le (by omega) hn) (Int.pow_pos hV)

/-- `crr = 100`: both exponents are `n`, the powers compare as their bases, and the two clauses of the certificate for the
    quotient `q = x·S / V` with tolerance 0 are the two inequalities `q·V ≤ x·S < (q+1)·V` that define it. -/
theorem sale_exact {S V x N : Int} {n : Nat} (hn : 0 < n) (hS : 0 < S) (hV : 0 < V) (hxV : x ≤ V) (hN : N = x * S) :
    SaleCert S V (V - x) n n (N / V) (N / V + 1) := by
  have h1 : N / V * V ≤ x * S := hN ▸ Int.ediv_mul_le N hV.ne'
  have h2 : x * S < (N / V + 1) * V := hN ▸ Int.lt_ediv_add_one_mul_self N hV
  generalize N / V = q at h1 h2 ⊢
  have hqS : q ≤ S :=
    Int.le_of_mul_le_mul_right (h1.trans ((Int.mul_le_mul_of_nonneg_right hxV hS.le).trans (mul_comm V S).le)) hV
  have e1 : (V - x) * S ≤ (S - q) * V := by
    rw [sub_mul, sub_mul, mul_comm V S]; exact Int.sub_le_sub_left h1 _
  have e2 : (S - (q + 1)) * V < (V - x) * S := by
    rw [sub_mul, sub_mul, mul_comm V S]; exact Int.sub_lt_sub_left h2 _
  have hx0 : 0 ≤ (V - x) * S := Int.mul_nonneg (Int.sub_nonneg_of_le hxV) hS.le
  refine ⟨Or.inr ⟨hqS, ipow_mul_ipow_le hx0 e1 n⟩, ?_⟩
  rcases lt_or_ge S (q + 1) with h | h
  · exact Or.inl h
  · exact Or.inr (ipow_mul_ipow_lt (Int.mul_nonneg (Int.sub_nonneg_of_le h) hV.le) e2 hn)

theorem purchase_exact {S V x N : Int} {n : Nat} (hn : 0 < n) (hS : 0 < S) (hV : 0 < V) (hx : 0 ≤ x) (hN : N = x * S) :
    PurchaseCert S V (V + x) n n (N / V) (N / V + 1) := by
  have h0 : 0 ≤ N / V := Int.ediv_nonneg (hN ▸ Int.mul_nonneg hx hS.le) hV.le
  have h1 : N / V * V ≤ x * S := hN ▸ Int.ediv_mul_le N hV.ne'
  have h2 : x * S < (N / V + 1) * V := hN ▸ Int.lt_ediv_add_one_mul_self N hV
  generalize N / V = q at h0 h1 h2 ⊢
  have e1 : (S + q) * V ≤ (V + x) * S := by
    rw [add_mul, add_mul, mul_comm V S]; exact Int.add_le_add_left h1 _
  have e2 : (V + x) * S < (S + (q + 1)) * V := by
    rw [add_mul, add_mul, mul_comm V S]; exact Int.add_lt_add_left h2 _
  exact ⟨Or.inr (ipow_mul_ipow_le (Int.mul_nonneg (Int.add_nonneg hS.le h0) hV.le) e1 n), by omega,
    ipow_mul_ipow_lt (Int.mul_nonneg (Int.add_nonneg hV.le hx) hS.le) e2 hn⟩

/-! ### Round trips -/

theorem bernoulli_int (V m : Int) (hm : 0 ≤ m) (hmV : m ≤ V) (n : Nat) :
    V ^ n * (V - ((n : Int) + 1) * m) ≤ (V - m) ^ (n + 1) := by
  induction n with
  | zero => simp
  | succ k ih =>
    -- multiply the hypothesis by `V − m ≥ 0`; the left sides then differ by `V^k·(k+1)·m² ≥ 0`
    have h1 := Int.mul_le_mul_of_nonneg_right ih (Int.sub_nonneg_of_le hmV)
    have h2 : 0 ≤ V ^ k * (((k : Int) + 1) * (m * m)) :=
      Int.mul_nonneg (Int.pow_nonneg (hm.trans hmV)) (Int.mul_nonneg (by omega) (mul_self_nonneg m))
    rw [pow_succ V, pow_succ (V - m) (k + 1)]
    push_cast
    linarith

theorem ipow_succ_le_mul {y V : Int} (hy : 0 ≤ y) (hyV : y ≤ V) (k : Nat) : y ^ (k + 1) ≤ y * V ^ k := by
  rw [pow_succ, mul_comm]
  exact Int.mul_le_mul_of_nonneg_left (ipow_le hy hyV k) hy

/-- The inequality behind the buy-then-sell round trip: from `(V − m)^n·R^c ≤ X^c·V^n` (`1 ≤ c`, `1 ≤ n`) conclude
    `R·(V − n·m) ≤ X·V`: a deficit of `m` coins is worth at most `n·m·R/V` in reserve.  Over the reals:
    `1 − n·m/V ≤ (1 − m/V)^n ≤ (X/R)^c ≤ X/R` when `X ≤ R`. -/
theorem roundtrip_key (X V R m : Int) (c n : Nat) (hc1 : 1 ≤ c) (hn1 : 1 ≤ n) (hX : 0 ≤ X) (hV : 0 < V) (hR : 0 < R)
    (hm : 0 ≤ m) (hmV : m ≤ V) (h : (V - m) ^ n * R ^ c ≤ X ^ c * V ^ n) :
    R * (V - (n : Int) * m) ≤ X * V := by
  obtain ⟨k, rfl⟩ := Nat.exists_eq_add_one.mpr hc1
  obtain ⟨j, rfl⟩ := Nat.exists_eq_add_one.mpr hn1
  rcases le_total R X with hRX | hXR
  · have : 0 ≤ ((j + 1 : Nat) : Int) * m := Int.mul_nonneg (Int.natCast_nonneg _) hm
    calc R * (V - ((j + 1 : Nat) : Int) * m) ≤ R * V := Int.mul_le_mul_of_nonneg_left (Int.sub_le_self V this) hR.le
      _ ≤ X * V := Int.mul_le_mul_of_nonneg_right hRX hV.le
  · -- `X^c ≤ X·R^(c−1)`, so `(V − m)^n·R ≤ X·V^n`; by Bernoulli `V^(n−1)·(V − n·m)·R ≤ (V − m)^n·R`
    have a1 := Int.mul_le_mul_of_nonneg_right (ipow_succ_le_mul hX hXR k) (Int.pow_nonneg hV.le (m := j + 1))
    have a2 := Int.mul_le_mul_of_nonneg_right (bernoulli_int V m hm hmV j) hR.le
    rw [pow_succ R] at h
    have h1 : (V - m) ^ (j + 1) * R ≤ X * V ^ (j + 1) :=
      Int.le_of_mul_le_mul_right (a := R ^ k) (by linarith only [h, a1]) (Int.pow_pos hR)
    rw [pow_succ V] at h1
    refine Int.le_of_mul_le_mul_right (a := V ^ j) ?_ (Int.pow_pos hV)
    push_cast
    linarith only [a2, h1]

/-- Chaining two certificate inequalities that share the factors `a` and `y` (all letters are opaque powers). -/
theorem mul_chain {a b x y u t : Int} (ha : 0 < a) (hb : 0 < b) (hy : 0 < y) (hu : 0 < u)
    (h1 : a * b ≤ x * y) (h2 : y * u < t * a) : b * u < x * t := by
  -- multiply `h1` by `y·u` and `h2` by `x·y`, then cancel `a·y`
  have e1 := Int.mul_le_mul_of_nonneg_right h1 (Int.mul_pos hy hu).le
  have e2 := Int.mul_lt_mul_of_pos_left h2 (lt_of_lt_of_le (Int.mul_pos ha hb) h1)
  exact Int.lt_of_mul_lt_mul_right (a := a * y) (by linarith) (Int.mul_pos ha hy).le

end Minter
