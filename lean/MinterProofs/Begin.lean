import MinterModel.BeginBlock
import MinterProofs.Ledger
/-
  Lemmas about the BeginBlock model (MinterModel/BeginBlock.lean).  Every loop of the model runs a step, then the rest, and
  concatenates the events (`seq_ok`), so a preorder on states that every step respects holds across the loop (`*_lift`); for
  each step there is one lemma saying what the state is afterwards (`setAbsent_cases`, `byzStep_cases`, `matureOne_cases`), and
  for each phase one saying what it leaves alone and how it moves value.
  Core Lean only.
-/
namespace Minter

theorem candIds_contains (id : Nat) (l : List Candidate) :
    (l.map (·.id)).contains id = (findFirst (candById id) l).isSome := by
  induction l with
  | nil => rfl
  | cons x t ih =>
    simp only [List.map_cons, List.contains_cons, findFirst, candById, ih, BEq.comm (a := id)]
    by_cases h : (x.id == id) = true <;> simp [h]

/-! ### The shape of the loops -/

/-- A step that succeeds, then the rest that succeeds, the events of both in order: what a successful run of a loop of the
    model (`absencePhase`, `byzPhase`, `matureAll`) over `_ :: _` unfolds to. -/
theorem seq_ok {x : M (State × List BEvent)} {f : State → M (State × List BEvent)} {s' : State} {ev : List BEvent}
    (hr : (match x with
      | .error e => .error e
      | .ok (s1, e1) => match f s1 with
        | .error e => .error e
        | .ok (s2, e2) => .ok (s2, e1 ++ e2)) = (.ok (s', ev) : M (State × List BEvent))) :
    ∃ s1 e1 e2, x = .ok (s1, e1) ∧ f s1 = .ok (s', e2) ∧ ev = e1 ++ e2 := by
  split at hr
  · cases hr
  · next s1 e1 =>
    split at hr
    · cases hr
    · next s2 e2 h2 => cases hr; exact ⟨s1, e1, e2, rfl, h2, rfl⟩

section Lift
variable {P : Params} {o : Oracle} {h u : Nat} {g : Bool} {s s' : State} {ev : List BEvent}
  {R : State → State → Prop} (refl : ∀ s, R s s) (trans : ∀ {a b c}, R a b → R b c → R a c)
include refl trans

theorem absencePhase_lift (present : ∀ a s, R s (setPresent h a s))
    (absent : ∀ {a s s' ev}, setAbsent P h g a s = .ok (s', ev) → R s s')
    {vs : List (Nat × Bool)} (hr : absencePhase P h g vs s = .ok (s', ev)) : R s s' := by
  induction vs generalizing s ev with
  | nil => cases hr; exact refl _
  | cons x t ih =>
    obtain ⟨a, _ | _⟩ := x
    · obtain ⟨s1, e1, e2, h1, h2, rfl⟩ := seq_ok hr
      exact trans (absent h1) (ih h2)
    · exact trans (present a s) (ih hr)

theorem byzPhase_lift (step : ∀ {a s s' ev}, byzStep P o h a s = .ok (s', ev) → R s s')
    {l : List Nat} (hr : byzPhase P o h l s = .ok (s', ev)) : R s s' := by
  induction l generalizing s ev with
  | nil => cases hr; exact refl _
  | cons a t ih =>
    obtain ⟨s1, e1, e2, h1, h2, rfl⟩ := seq_ok hr
    exact trans (step h1) (ih h2)

theorem matureAll_lift {l : List Frozen} (step : ∀ f ∈ l, ∀ {s s' ev}, matureOne u h f s = .ok (s', ev) → R s s')
    (hr : matureAll u h l s = .ok (s', ev)) : R s s' := by
  induction l generalizing s ev with
  | nil => cases hr; exact refl _
  | cons f t ih =>
    obtain ⟨s1, e1, e2, h1, h2, rfl⟩ := seq_ok hr
    exact trans (step f (List.mem_cons_self ..) h1) (ih (fun x hx => step x (List.mem_cons_of_mem _ hx)) h2)

end Lift

/-! ### The slash arithmetic -/

theorem byzKeep_add_cut (v : Int) : byzKeep v + byzCut v = v := by
  simp only [byzCut]; omega

/-- The "rounded-up 5 %" of C18: `v − ⌊95·v/100⌋ = ⌈v/20⌉`, for every integer. -/
theorem byzCut_eq_ceil (v : Int) : byzCut v = (v + 19) / 20 := by
  simp only [byzCut, byzKeep]; omega

theorem byzKeep_nonneg (v : Int) (h : 0 ≤ v) : 0 ≤ byzKeep v := by
  simp only [byzKeep]; omega

theorem byzKeep_le (v : Int) (h : 0 ≤ v) : byzKeep v ≤ v := by
  simp only [byzKeep]; omega

theorem byzCut_nonneg (v : Int) (h : 0 ≤ v) : 0 ≤ byzCut v := by
  have := byzKeep_le v h
  simp only [byzCut]; omega

theorem byzCut_zero : byzCut 0 = 0 := by decide

/-! ### Absence accounting moves no value -/

/-- Nothing that carries value changed (statuses, jail heights, absence bits, drop marks may have). -/
structure SameValue (s s' : State) : Prop where
  balances : s'.balances = s.balances
  frozen : s'.frozen = s.frozen
  coins : s'.coins = s.coins
  slashed : s'.slashed = s.slashed
  waitlist : s'.waitlist = s.waitlist
  pools : s'.pools = s.pools
  orders : s'.orders = s.orders
  candH : ∀ c, sumBy (candHoldings c) s'.candidates = sumBy (candHoldings c) s.candidates
  accum : totalAccum s' = totalAccum s

theorem SameValue.refl (s : State) : SameValue s s :=
  ⟨rfl, rfl, rfl, rfl, rfl, rfl, rfl, fun _ => rfl, rfl⟩

theorem SameValue.trans {a b c : State} (h1 : SameValue a b) (h2 : SameValue b c) : SameValue a c :=
  ⟨h2.balances.trans h1.balances, h2.frozen.trans h1.frozen, h2.coins.trans h1.coins, h2.slashed.trans h1.slashed,
   h2.waitlist.trans h1.waitlist, h2.pools.trans h1.pools, h2.orders.trans h1.orders,
   fun c => (h2.candH c).trans (h1.candH c), h2.accum.trans h1.accum⟩

theorem SameValue.holdings {s s' : State} (h : SameValue s s') (c : Coin) : holdings s' c = holdings s c := by
  simp only [holdings_def, h.balances, h.frozen, h.waitlist, h.pools, h.orders, h.candH c]

theorem SameValue.volume {s s' : State} (h : SameValue s s') (c : Coin) : volumeOf s' c = volumeOf s c := by
  simp only [volumeOf, h.coins]

theorem SameValue.baseTotal {s s' : State} (h : SameValue s s') : baseTotal s' = baseTotal s := by
  simp only [Minter.baseTotal, h.holdings 0, totalReserve, h.coins, h.accum, h.slashed]

/-- The step form of C01, without assuming `Conserved s`: what a slash keeps is the difference volume − holdings of a custom
    coin, not either of them. -/
def Conserves (s s' : State) : Prop :=
  (∀ k, k ≠ 0 → volumeOf s' k - holdings s' k = volumeOf s k - holdings s k) ∧ baseTotal s' = baseTotal s

theorem Conserves.refl (s : State) : Conserves s s := ⟨fun _ _ => rfl, rfl⟩

theorem Conserves.trans {a b c : State} (h1 : Conserves a b) (h2 : Conserves b c) : Conserves a c :=
  ⟨fun k hk => (h2.1 k hk).trans (h1.1 k hk), h2.2.trans h1.2⟩

theorem SameValue.conserves {s s' : State} (h : SameValue s s') : Conserves s s' :=
  ⟨fun k _ => by rw [h.holdings, h.volume], h.baseTotal⟩

section Absence
variable {P : Params} {h a : Nat} {g : Bool} {s s' : State} {ev : List BEvent}

/-- The ways an absent vote is applied: the address is no validator's; the bit of the height is set; the bit crosses the
    threshold, so the validator is dropped and its candidate switched off. -/
theorem setAbsent_cases (hr : setAbsent P h g a s = .ok (s', ev)) :
    s' = s
    ∨ (∃ bits, s' = { s with validators := updFirst (valByTm a) (fun w => { w with absent := bits }) s.validators })
    ∨ ∃ pk, s' = { s with
        candidates := updFirst (candByPub pk) (switchOff P.jail h g) s.candidates,
        validators := updFirst (valByTm a) (fun v => { v with absent := freshBits, toDrop := true }) s.validators } := by
  unfold setAbsent at hr
  split at hr
  · cases hr; exact .inl rfl
  · split at hr
    · split at hr
      · cases hr
      · cases hr; exact .inr (.inr ⟨_, rfl⟩)
    · cases hr; exact .inr (.inl ⟨_, rfl⟩)

theorem setAbsent_frame (hr : setAbsent P h g a s = .ok (s', ev)) :
    SameValue s s' ∧ s'.candidates.map (·.id) = s.candidates.map (·.id) := by
  rcases setAbsent_cases hr with rfl | ⟨_, rfl⟩ | ⟨_, rfl⟩
  · exact ⟨.refl _, rfl⟩
  · exact ⟨⟨rfl, rfl, rfl, rfl, rfl, rfl, rfl, fun _ => rfl, sumBy_updFirst_inv _ _ _ _ (fun _ => rfl)⟩, rfl⟩
  · exact ⟨⟨rfl, rfl, rfl, rfl, rfl, rfl, rfl, fun _ => sumBy_updFirst_inv _ _ _ _ (fun _ => rfl),
      sumBy_updFirst_inv _ _ _ _ (fun _ => rfl)⟩, map_updFirst_inv _ _ _ _ (fun _ => rfl)⟩

theorem absencePhase_frame {vs : List (Nat × Bool)} (hr : absencePhase P h g vs s = .ok (s', ev)) :
    SameValue s s' ∧ s'.candidates.map (·.id) = s.candidates.map (·.id) :=
  absencePhase_lift (R := fun s s' => SameValue s s' ∧ s'.candidates.map (·.id) = s.candidates.map (·.id))
    (fun _ => ⟨.refl _, rfl⟩) (fun h1 h2 => ⟨h1.1.trans h2.1, h2.2.trans h1.2⟩)
    (fun _ _ => ⟨⟨rfl, rfl, rfl, rfl, rfl, rfl, rfl, fun _ => rfl, sumBy_updFirst_inv _ _ _ _ (fun _ => rfl)⟩, rfl⟩)
    setAbsent_frame hr

end Absence

/-! ### Byzantine punishment -/

/-- What `PunishFrozenFundsWithID(lo, hi, cid)` does to one item. -/
def slashItem (lo hi cid : Nat) (f : Frozen) : Frozen :=
  if inWindow lo hi cid f then { f with value := byzKeep f.value } else f

def slashBy (lo hi : Nat) : List Nat → Frozen → Frozen
  | [], f => f
  | cid :: t, f => slashBy lo hi t (slashItem lo hi cid f)

def frozenOf (c : Coin) (f : Frozen) : Int := if f.coin = c then f.value else 0

/-- The book a cut of coin `k` is taken out of: a custom coin's volume; for the base coin what stands against the holders'
    coins in reserves and the slashed pool, with a minus sign, so that a cut lowers the book of its coin whatever the coin. -/
def potBook (p : ByzPots) (k : Coin) : Int :=
  if k = 0 then -(sumBy (fun ci => ci.reserve) p.coins + p.slashed)
  else sumBy (fun ci => if ci.id = k then ci.volume else 0) p.coins

section Evidence
variable {P : Params} {o : Oracle} {h a lo hi cid : Nat} {s s' : State} {ev : List BEvent}
  {coin : Coin} {v : Int} {p p' : ByzPots}

/-- The two ways a slash succeeds: a base-coin cut goes to the slashed pool; a custom-coin cut leaves the volume, and the
    reserve it is worth (the node's `CalculateSaleReturn`) moves from the coin's reserve to the slashed pool. -/
theorem slashPots_cases (hr : slashPots o coin v p = .ok p') :
    (coin = 0 ∧ p' = { p with slashed := p.slashed + byzCut v })
    ∨ (coin ≠ 0 ∧ ∃ ci ret, findFirst (coinById coin) p.coins = some ci
        ∧ o (.saleReturn ci.volume ci.reserve ci.crr (byzCut v)) = some ret
        ∧ p' = { coins := updFirst (coinById coin)
                   (fun ci => { ci with volume := ci.volume - byzCut v, reserve := ci.reserve - ret }) p.coins,
                 slashed := p.slashed + ret }) := by
  unfold slashPots at hr
  split at hr
  · next h0 => cases hr; exact .inl ⟨h0, rfl⟩
  · next h0 =>
    split at hr
    · cases hr
    · next ci hf =>
      split at hr
      · cases hr
      · next ret ho => cases hr; exact .inr ⟨h0, ci, ret, hf, ho, rfl⟩

theorem slashPots_book (hr : slashPots o coin v p = .ok p') (k : Coin) :
    potBook p' k = potBook p k - (if coin = k then byzCut v else 0) := by
  rcases slashPots_cases hr with ⟨rfl, rfl⟩ | ⟨h0, ci, ret, hf, _, rfl⟩
  · by_cases hk : k = 0
    · subst hk; simp only [potBook, if_true]; omega
    · simp only [potBook, hk, Ne.symm hk, if_false]; omega
  · have hid : ci.id = coin := by simpa [coinById] using findFirst_some _ _ _ hf
    simp only [potBook, sumBy_updFirst, updDelta, hf, hid]
    by_cases hk : k = 0
    · subst hk; simp only [h0, if_true, if_false]; omega
    · by_cases hc : coin = k <;> simp only [hk, hc, ↓reduceIte] <;> omega

theorem punishFrozen_cons {f : Frozen} {t l' : List Frozen}
    (hr : punishFrozen o lo hi cid (f :: t) p = .ok (l', p', ev)) :
    ∃ p1 t' ev', (if inWindow lo hi cid f then slashPots o f.coin f.value p = .ok p1 else p1 = p)
      ∧ punishFrozen o lo hi cid t p1 = .ok (t', p', ev') ∧ l' = slashItem lo hi cid f :: t' := by
  simp only [punishFrozen] at hr
  split at hr
  · next hw =>
    split at hr
    · cases hr
    · split at hr
      · cases hr
      · next p1 h1 =>
        split at hr
        · cases hr
        · next t' _ _ h2 => cases hr; exact ⟨p1, t', _, by rwa [if_pos hw], h2, by rw [slashItem, if_pos hw]⟩
  · next hw =>
    split at hr
    · cases hr
    · next t' _ _ h2 => cases hr; exact ⟨p, t', _, by rw [if_neg hw], h2, by rw [slashItem, if_neg hw]⟩

theorem punishFrozen_effect {l l' : List Frozen}
    (hr : punishFrozen o lo hi cid l p = .ok (l', p', ev)) :
    l' = l.map (slashItem lo hi cid)
    ∧ ∀ k, potBook p' k - sumBy (frozenOf k) l' = potBook p k - sumBy (frozenOf k) l := by
  induction l generalizing l' p ev with
  | nil => cases hr; exact ⟨rfl, fun _ => rfl⟩
  | cons f t ih =>
    obtain ⟨p1, t', ev', h1, h2, rfl⟩ := punishFrozen_cons hr
    obtain ⟨rfl, hb⟩ := ih h2
    refine ⟨rfl, fun k => ?_⟩
    have := hb k
    have := byzKeep_add_cut f.value
    by_cases hw : inWindow lo hi cid f = true
    · rw [if_pos hw] at h1
      have h3 := slashPots_book h1 k
      by_cases hc : f.coin = k <;> simp only [sumBy, slashItem, frozenOf, hw, hc, ↓reduceIte] at h3 ⊢ <;> omega
    · rw [if_neg hw] at h1
      subst h1
      simp only [sumBy, slashItem, hw, Bool.false_eq_true, ↓reduceIte]; omega

theorem punishStakes_effect {l : List Stake} (hr : punishStakes o l p = .ok p')
    (u h : Nat) (c : Candidate) (k : Coin) :
    potBook p' k - sumBy (frozenOf k) (l.map (remainderFund u h c)) = potBook p k - sumBy (stakeOf k) l := by
  induction l generalizing p with
  | nil => cases hr; rfl
  | cons st t ih =>
    simp only [punishStakes] at hr
    split at hr
    · cases hr
    · next p1 h1 =>
      have := ih hr
      have h3 := slashPots_book h1 k
      have := byzKeep_add_cut st.value
      by_cases hc : st.coin = k <;>
        simp only [List.map_cons, sumBy, frozenOf, remainderFund, stakeOf, hc, ↓reduceIte] at h3 ⊢ <;> omega

theorem byzTarget_eq_some {v : Validator} {c : Candidate} :
    byzTarget a s = some (v, c) ↔ findFirst (valByTm a) s.validators = some v ∧ v.toDrop = false
      ∧ findFirst (candByPub v.pubkey) s.candidates = some c ∧ c.status ≠ 1 := by
  unfold byzTarget
  constructor
  · intro h
    split at h
    · cases h
    · next w hv =>
      split at h
      · cases h
      · next hd =>
        split at h
        · cases h
        · next d hc =>
          split at h
          · cases h
          · next hs => cases h; exact ⟨hv, by simpa using hd, hc, hs⟩
  · rintro ⟨hv, hd, hc, hs⟩
    simp [hv, hd, hc, hs]

theorem byzStep_skip (P : Params) (o : Oracle) (h a : Nat) (s : State) (ht : byzTarget a s = none) :
    byzStep P o h a s = .ok (s, []) := by
  simp only [byzStep, ht]

theorem byzStep_cases (hr : byzStep P o h a s = .ok (s', ev)) :
    (byzTarget a s = none ∧ s' = s)
    ∨ ∃ v c p1 ev1 p2, byzTarget a s = some (v, c)
      ∧ punishFrozen o h (h + P.unbond) c.id s.frozen ⟨s.coins, s.slashed⟩
          = .ok (s.frozen.map (slashItem h (h + P.unbond) c.id), p1, ev1)
      ∧ punishStakes o c.stakes p1 = .ok p2
      ∧ s' = { s with
          frozen := s.frozen.map (slashItem h (h + P.unbond) c.id) ++ c.stakes.map (remainderFund P.unbond h c),
          coins := p2.coins,
          slashed := p2.slashed,
          validators := updFirst (valByTm a) (fun v => { v with totalBip := 0, toDrop := true }) s.validators,
          candidates := updFirst (candByPub v.pubkey) (fun c => { c with stakes := c.stakes.map zeroStake }) s.candidates } := by
  cases ht : byzTarget a s with
  | none => rw [byzStep_skip P o h a s ht] at hr; cases hr; exact .inl ⟨rfl, rfl⟩
  | some vc =>
    obtain ⟨v, c⟩ := vc
    simp only [byzStep, ht] at hr
    split at hr
    · cases hr
    · next p1 ev1 h1 =>
      split at hr
      · cases hr
      · next p2 h2 =>
        cases hr
        obtain ⟨rfl, _⟩ := punishFrozen_effect h1
        exact .inr ⟨v, c, p1, ev1, p2, rfl, h1, h2, rfl⟩

theorem byzStep_conserves (hr : byzStep P o h a s = .ok (s', ev)) : Conserves s s' := by
  rcases byzStep_cases hr with ⟨_, rfl⟩ | ⟨v, c, p1, _, p2, ht, h1, h2, hs⟩
  · exact .refl _
  obtain ⟨_, _, hfc, _⟩ := byzTarget_eq_some.mp ht
  have hz : ∀ k, sumBy (stakeOf k) (c.stakes.map zeroStake) = 0 := fun k =>
    sumBy_eq_zero (fun x hx => by obtain ⟨st, _, rfl⟩ := List.mem_map.mp hx; exact ite_self _)
  -- the book of every coin falls by what the funds and stakes of that coin lose; the stakes are zeroed
  have hbal : ∀ k, potBook ⟨s'.coins, s'.slashed⟩ k - holdings s' k = potBook ⟨s.coins, s.slashed⟩ k - holdings s k := by
    intro k
    have := (punishFrozen_effect h1).2 k
    have := punishStakes_effect h2 P.unbond h c k
    subst hs
    show potBook p2 k - _ = _
    unfold frozenOf at *
    simp only [holdings_def, sumBy_append, sumBy_updFirst, updDelta, hfc, candHoldings, hz k]
    omega
  have hacc : totalAccum s' = totalAccum s := by
    subst hs; exact sumBy_updFirst_inv _ _ _ _ (fun _ => rfl)
  constructor
  · intro k hk
    have := hbal k
    simpa only [potBook, hk, if_false, volumeOf] using this
  · have := hbal 0
    simp only [potBook, if_true] at this
    simp only [baseTotal, totalReserve, hacc]
    omega

/-! ### The evidence loop -/

theorem byzPhase_conserves {l : List Nat} (hr : byzPhase P o h l s = .ok (s', ev)) : Conserves s s' :=
  byzPhase_lift .refl .trans byzStep_conserves hr

theorem byzPhase_frame {l : List Nat} (hr : byzPhase P o h l s = .ok (s', ev)) :
    s'.balances = s.balances ∧ s'.candidates.map (·.id) = s.candidates.map (·.id) := by
  refine byzPhase_lift (R := fun s s' => s'.balances = s.balances ∧ s'.candidates.map (·.id) = s.candidates.map (·.id))
    (fun _ => ⟨rfl, rfl⟩) (fun h1 h2 => ⟨h2.1.trans h1.1, h2.2.trans h1.2⟩) (fun {a s s' ev} h1 => ?_) hr
  rcases byzStep_cases h1 with ⟨_, rfl⟩ | ⟨_, _, _, _, _, _, _, _, rfl⟩
  · exact ⟨rfl, rfl⟩
  · exact ⟨rfl, map_updFirst_inv _ _ _ _ (fun _ => rfl)⟩

theorem slashBy_eq (lo hi : Nat) (ids : List Nat) (f : Frozen) : ∃ v, slashBy lo hi ids f = { f with value := v } := by
  induction ids generalizing f with
  | nil => exact ⟨f.value, rfl⟩
  | cons cid t ih =>
    obtain ⟨v, hv⟩ := ih (slashItem lo hi cid f)
    refine ⟨v, hv.trans ?_⟩
    unfold slashItem; split <;> rfl

theorem slashBy_untouched (lo hi : Nat) (ids : List Nat) (f : Frozen) (h : ∀ cid ∈ ids, inWindow lo hi cid f = false) :
    slashBy lo hi ids f = f := by
  induction ids with
  | nil => rfl
  | cons cid t ih =>
    simp only [slashBy, slashItem, h cid (List.mem_cons_self ..)]
    exact ih (fun c hc => h c (List.mem_cons_of_mem _ hc))

theorem slashBy_single (lo hi cid : Nat) (f : Frozen) (h : inWindow lo hi cid f = true) :
    slashBy lo hi [cid] f = { f with value := byzKeep f.value } := by
  simp [slashBy, slashItem, h]

theorem slashBy_value_le (lo hi : Nat) (ids : List Nat) (f : Frozen) (h0 : 0 ≤ f.value) :
    0 ≤ (slashBy lo hi ids f).value ∧ (slashBy lo hi ids f).value ≤ f.value := by
  induction ids generalizing f with
  | nil => exact ⟨h0, Int.le_refl _⟩
  | cons cid t ih =>
    have h1 : 0 ≤ (slashItem lo hi cid f).value ∧ (slashItem lo hi cid f).value ≤ f.value := by
      unfold slashItem; split
      · exact ⟨byzKeep_nonneg _ h0, byzKeep_le _ h0⟩
      · exact ⟨h0, Int.le_refl _⟩
    exact ⟨(ih _ h1.1).1, Int.le_trans (ih _ h1.1).2 h1.2⟩

theorem byzPhase_frozen {l : List Nat} (hr : byzPhase P o h l s = .ok (s', ev)) :
    ∃ new, s'.frozen = s.frozen.map (slashBy h (h + P.unbond) (byzPunishedIds P o h l s)) ++ new
      ∧ ∀ f ∈ new, f.height = h + P.unbond ∧ f.moveTo = 0 := by
  induction l generalizing s ev with
  | nil => cases hr; exact ⟨[], by simp [byzPunishedIds, slashBy], by simp⟩
  | cons a t ih =>
    obtain ⟨s1, e1, e2, h1, h2, rfl⟩ := seq_ok hr
    obtain ⟨new, hn, hall⟩ := ih h2
    simp only [byzPunishedIds, h1]
    rcases byzStep_cases h1 with ⟨ht, rfl⟩ | ⟨v, c, _, _, _, ht, _, _, hs1⟩ <;> simp only [ht]
    · exact ⟨new, hn, hall⟩
    · refine ⟨(c.stakes.map (remainderFund P.unbond h c)).map (slashBy h (h + P.unbond) (byzPunishedIds P o h t s1)) ++ new, ?_, ?_⟩
      · rw [hn, hs1]; simp [slashBy]
      · intro f hf
        rcases List.mem_append.mp hf with hf | hf
        · obtain ⟨g, hg, rfl⟩ := List.mem_map.mp hf
          obtain ⟨st, _, rfl⟩ := List.mem_map.mp hg
          obtain ⟨v, hv⟩ := slashBy_eq h (h + P.unbond) (byzPunishedIds P o h t s1) (remainderFund P.unbond h c st)
          rw [hv]; exact ⟨rfl, rfl⟩
        · exact hall f hf

end Evidence

/-! ### Maturity -/

def creditAll : List Frozen → Bag (Addr × Coin) → Bag (Addr × Coin)
  | [], b => b
  | f :: t, b => creditAll t (if f.moveTo = 0 then Bag.add b (f.addr, f.coin) f.value else b)

def moveUpdate (f : Frozen) : Stake := { owner := f.addr, coin := f.coin, value := f.value, bip := 0 }

def addUpdate (f : Frozen) (c : Candidate) : Candidate := { c with updates := c.updates ++ [moveUpdate f] }

def targetMissing (ids : List Nat) (f : Frozen) : Bool := f.moveTo != 0 && !ids.contains f.moveTo

structure MatureFrame (s s' : State) : Prop where
  coins : s'.coins = s.coins
  slashed : s'.slashed = s.slashed
  waitlist : s'.waitlist = s.waitlist
  pools : s'.pools = s.pools
  orders : s'.orders = s.orders
  validators : s'.validators = s.validators
  rewardsPool : s'.rewardsPool = s.rewardsPool
  lockStake : s'.lockStake = s.lockStake
  ids : s'.candidates.map (·.id) = s.candidates.map (·.id)

theorem MatureFrame.refl (s : State) : MatureFrame s s := ⟨rfl, rfl, rfl, rfl, rfl, rfl, rfl, rfl, rfl⟩

theorem MatureFrame.trans {a b c : State} (h1 : MatureFrame a b) (h2 : MatureFrame b c) : MatureFrame a c :=
  ⟨h2.coins.trans h1.coins, h2.slashed.trans h1.slashed, h2.waitlist.trans h1.waitlist,
   h2.pools.trans h1.pools, h2.orders.trans h1.orders, h2.validators.trans h1.validators,
   h2.rewardsPool.trans h1.rewardsPool, h2.lockStake.trans h1.lockStake, h2.ids.trans h1.ids⟩

section Maturity
variable {P : Params} {o : Oracle} {u h : Nat} {s s' : State} {ev : List BEvent}

/-- A matured item is applied as one ledger primitive: credited to its owner; a move whose target is gone, re-frozen as an
    unbond; a move, appended to the updates of its target. -/
theorem matureOne_cases {f : Frozen} (hr : matureOne u h f s = .ok (s', ev)) :
    (f.moveTo = 0 ∧ s' = (Prim.addBal f.addr f.coin f.value).apply s)
    ∨ (f.moveTo ≠ 0 ∧ findFirst (candById f.moveTo) s.candidates = none ∧ s' = (Prim.addFrozen (refreeze u h f)).apply s)
    ∨ (f.moveTo ≠ 0 ∧ ∃ c, findFirst (candById f.moveTo) s.candidates = some c
        ∧ s' = (Prim.pushUpdate f.moveTo (moveUpdate f)).apply s) := by
  unfold matureOne at hr
  split at hr
  · next h0 => cases hr; exact .inl ⟨h0, rfl⟩
  · next h0 =>
    split at hr
    · next hc => cases hr; exact .inr (.inl ⟨h0, hc, rfl⟩)
    · next c hc =>
      split at hr
      · cases hr
      · cases hr; exact .inr (.inr ⟨h0, c, hc, rfl⟩)

/-- One matured item, in the terms in which `matureAll_effect` speaks of a list of them. -/
theorem matureOne_effect {f : Frozen} (hr : matureOne u h f s = .ok (s', ev)) :
    s'.balances = creditAll [f] s.balances
    ∧ s'.frozen = s.frozen ++ ([f].filter (targetMissing (s.candidates.map (·.id)))).map (refreeze u h)
    ∧ (∀ k, holdings s' k = holdings s k + frozenOf k f)
    ∧ MatureFrame s s' := by
  have hmiss : targetMissing (s.candidates.map (·.id)) f
      = (f.moveTo != 0 && (findFirst (candById f.moveTo) s.candidates).isNone) := by
    simp only [targetMissing, candIds_contains, Option.not_isSome]
  rcases matureOne_cases hr with ⟨h0, rfl⟩ | ⟨h0, hc, rfl⟩ | ⟨h0, c, hc, rfl⟩
  · exact ⟨by simp [Prim.apply, creditAll, h0], by simp [Prim.apply, hmiss, h0], fun k => apply_holdings s _ k rfl,
      ⟨rfl, rfl, rfl, rfl, rfl, rfl, rfl, rfl, rfl⟩⟩
  · exact ⟨by simp [Prim.apply, creditAll, h0], by simp [Prim.apply, hmiss, h0, hc], fun k => apply_holdings s _ k rfl,
      ⟨rfl, rfl, rfl, rfl, rfl, rfl, rfl, rfl, rfl⟩⟩
  · exact ⟨by simp [Prim.apply, creditAll, h0], by simp [Prim.apply, hmiss, hc],
      fun k => apply_holdings s _ k (any_of_findFirst _ _ _ hc),
      ⟨rfl, rfl, rfl, rfl, rfl, rfl, rfl, rfl, map_updFirst_inv _ _ _ _ (fun _ => rfl)⟩⟩

theorem matureAll_effect {l : List Frozen} (hr : matureAll u h l s = .ok (s', ev)) :
    s'.balances = creditAll l s.balances
    ∧ s'.frozen = s.frozen ++ (l.filter (targetMissing (s.candidates.map (·.id)))).map (refreeze u h)
    ∧ (∀ k, holdings s' k = holdings s k + sumBy (frozenOf k) l)
    ∧ MatureFrame s s' := by
  induction l generalizing s ev with
  | nil => cases hr; exact ⟨rfl, by simp, fun k => by simp [sumBy], .refl _⟩
  | cons f t ih =>
    obtain ⟨s1, e1, e2, h1, h2, rfl⟩ := seq_ok hr
    obtain ⟨b1, f1, v1, r1⟩ := matureOne_effect h1
    obtain ⟨b2, f2, v2, r2⟩ := ih h2
    refine ⟨by rw [b2, b1]; rfl, ?_, fun k => ?_, r1.trans r2⟩
    · rw [f2, f1, r1.ids, List.append_assoc, ← List.map_append, ← List.filter_append]; rfl
    · rw [v2 k, v1 k]; simp only [sumBy]; omega

theorem maturityPhase_inv (hr : maturityPhase u h s = .ok (s', ev)) :
    ∃ s1, matureAll u h (s.frozen.filter (dueAt h)) s = .ok (s1, ev)
      ∧ s' = { s1 with frozen := s1.frozen.filter (fun f => !dueAt h f) } := by
  unfold maturityPhase at hr
  split at hr
  · cases hr
  · next s1 _ h1 => cases hr; exact ⟨s1, h1, rfl⟩

/-- `hu`: a re-frozen fund is due at `h + u`, so with `0 < u` the filter that drops the funds stored under `h` keeps it. -/
theorem maturityPhase_effect (hu : 0 < u) (hr : maturityPhase u h s = .ok (s', ev)) :
    s'.frozen = s.frozen.filter (fun f => !dueAt h f)
        ++ ((s.frozen.filter (dueAt h)).filter (targetMissing (s.candidates.map (·.id)))).map (refreeze u h)
    ∧ s'.balances = creditAll (s.frozen.filter (dueAt h)) s.balances
    ∧ (∀ k, holdings s' k = holdings s k)
    ∧ MatureFrame s s' := by
  obtain ⟨s1, h1, rfl⟩ := maturityPhase_inv hr
  obtain ⟨hb, hfz, hh, fr⟩ := matureAll_effect h1
  have hfilter : s1.frozen.filter (fun f => !dueAt h f) = s.frozen.filter (fun f => !dueAt h f)
      ++ ((s.frozen.filter (dueAt h)).filter (targetMissing (s.candidates.map (·.id)))).map (refreeze u h) := by
    rw [hfz, List.filter_append]
    congr 1
    exact List.filter_eq_self.mpr (fun x hx => by obtain ⟨y, _, rfl⟩ := List.mem_map.mp hx; simp [dueAt, refreeze]; omega)
  refine ⟨hfilter, hb, fun k => ?_, { fr with }⟩
  have h1 := hh k
  have h2 := sumBy_filter_split (fun f : Frozen => if f.coin = k then f.value else 0) (dueAt h) s.frozen
  unfold frozenOf at h1
  simp only [holdings_def, hfz, sumBy_append] at h1
  simp only [holdings_def, hfilter, sumBy_append]
  omega

theorem maturityPhase_conserves (hu : 0 < u) (hr : maturityPhase u h s = .ok (s', ev)) : Conserves s s' := by
  obtain ⟨_, _, hh, fr⟩ := maturityPhase_effect hu hr
  exact ⟨fun k _ => by simp only [volumeOf, fr.coins, hh k],
    by simp only [baseTotal, hh 0, totalReserve, totalAccum, fr.coins, fr.slashed, fr.validators]⟩

theorem beginBlock_phases {r : BeginReq} {grace : Bool} (hr : beginBlock P o s r grace = .ok (s', ev)) :
    ∃ sA evA sB evB evC, absencePhase P r.height grace r.votes { s with rewardsPool := 0 } = .ok (sA, evA)
      ∧ byzPhase P o r.height r.byz sA = .ok (sB, evB) ∧ maturityPhase P.unbond r.height sB = .ok (s', evC) := by
  unfold beginBlock at hr
  split at hr
  · cases hr
  · next sA evA hA =>
    split at hr
    · cases hr
    · next sB evB hB =>
      split at hr
      · cases hr
      · next evC hC => cases hr; exact ⟨sA, evA, sB, evB, evC, hA, hB, hC⟩

end Maturity

end Minter
