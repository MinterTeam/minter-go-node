import MinterProofs.AmountsBancor
import MinterProofs.Props.C15
import Mathlib.Tactic.Linarith
/-
  C02: AddLiquidity (21) and RemoveLiquidity (22) — every commission route, including the commission swapped through the very pool the
  liquidity is added to / removed from (the execution then runs on the reserves after that swap: `sim_eq_real`, Props/C15.lean).
-/
namespace Minter

variable {P : Params} {o : Oracle} {s : State} {t : TxIn} {price : Int} {rd : Ready}

/-- Pools are stored in sorted orientation (as `CreateSwapPool` stores them). -/
def PoolsSorted (s : State) : Prop := ∀ p ∈ s.pools, p.c0 < p.c1

/-- Coin ids identify registry entries. -/
def CoinIdsWf (s : State) : Prop := ∀ ci ∈ s.coins, getCoin s ci.id = some ci

theorem poolsOk_of (s : State) (hs : PoolsSorted s) (hok : AmountsOk s) : PoolsOk s :=
  fun p hp => ⟨hs p hp, (hok.pools p hp).1, (hok.pools p hp).2⟩

/-! ### Pool entries: lookups under an update, and after the commission -/

/-- Updating the entry stored under `(a, b)` leaves the lookup of any other key alone. -/
theorem pool_other_aux (a b x y : Coin) (hne : ¬ (x = a ∧ y = b)) (g : Pool → Pool) (hg : ∀ p, (g p).c0 = p.c0 ∧ (g p).c1 = p.c1) (l : List Pool) :
    findFirst (fun p => p.c0 == x && p.c1 == y) (updFirst (fun p => p.c0 == a && p.c1 == b) g l) =
      findFirst (fun p => p.c0 == x && p.c1 == y) l := by
  apply findFirst_updFirst_other _ _ _ _ (fun p => by simp only [(hg p).1, (hg p).2])
  intro p hp
  simp only [Bool.and_eq_true, beq_iff_eq] at hp
  rw [hp.1, hp.2]
  exact Bool.eq_false_iff.mpr fun e => hne (by simp only [Bool.and_eq_true, beq_iff_eq] at e; exact ⟨e.1.symm, e.2.symm⟩)

theorem poolRes_of_getPool (s : State) (a b : Coin) (p : Pool) (h : getPool s a b = some p) : poolRes s a b = some (p.r0, p.r1) := by
  unfold poolRes; rw [h]

theorem getPool_lt {s : State} (hs : PoolsSorted s) {a b : Coin} {p : Pool} (h : getPool s a b = some p) : a < b := by
  obtain ⟨hm, e0, e1⟩ := getPool_mem s a b p h
  rw [← e0, ← e1]
  exact hs p hm

/-- The stored entry of pool `(x, y)` after the commission carries exactly the reserves `poolResAdj` reports. -/
theorem getPool_frame (s s1 : State) (payer : Addr) (gas : Coin) (com : Com) (adj : Option PoolAdj)
    (hfr : FeeFrame s s1 payer gas com adj) (hs : PoolsSorted s) (x y : Coin) (p1 : Pool) (h : getPool s1 x y = some p1) :
    poolResAdj s adj x y = some (p1.r0, p1.r1) := by
  unfold getPool at h
  cases adj with
  | none =>
    rw [hfr.pools rfl] at h
    rw [poolResAdj_none]
    exact poolRes_of_getPool s x y p1 h
  | some j =>
    -- the entry read is the changed one or an old one; which test of `poolResAdj` fires follows from the keys being sorted
    rcases hfr.poolsAdj j rfl with ⟨hsome, hpools⟩ | ⟨hnone, hpools⟩ <;> rw [hpools] at h
    · obtain ⟨q, hq⟩ := Option.isSome_iff_exists.mp hsome
      have hj := getPool_lt hs hq
      by_cases hxy : x = j.a ∧ y = j.b
      · obtain ⟨rfl, rfl⟩ := hxy
        obtain ⟨p, hp, rfl⟩ := Option.map_eq_some_iff.mp ((getPool_addPool_same s j.a j.b j.da j.db).symm.trans h)
        rw [poolResAdj_some (poolRes_of_getPool s _ _ p hp), if_pos ⟨rfl, rfl⟩]
      · rw [pool_other_aux j.a j.b x y hxy _ (fun _ => by exact ⟨rfl, rfl⟩)] at h
        have := getPool_lt hs h
        rw [poolResAdj_some (poolRes_of_getPool s x y p1 h), if_neg (by omega), if_neg (by omega)]
    · by_cases hxy : x = j.b ∧ y = j.a
      · obtain ⟨rfl, rfl⟩ := hxy
        obtain ⟨p, hp, rfl⟩ := Option.map_eq_some_iff.mp ((getPool_addPool_same s j.b j.a j.db j.da).symm.trans h)
        have := getPool_lt hs hp
        rw [poolResAdj_some (poolRes_of_getPool s _ _ p hp), if_neg (by omega), if_pos ⟨rfl, rfl⟩]
      · rw [pool_other_aux j.b j.a x y hxy _ (fun _ => by exact ⟨rfl, rfl⟩)] at h
        have hA : ¬(j.a = x ∧ j.b = y) := fun e => by
          rw [← e.1, ← e.2] at h
          rw [show getPool s j.a j.b = some p1 from h] at hnone
          cases hnone
        rw [poolResAdj_some (poolRes_of_getPool s x y p1 h), if_neg hA, if_neg (by omega)]

theorem getCoin_addPool (s : State) (a b c : Coin) (d0 d1 : Int) : getCoin ((Prim.addPool a b d0 d1).apply s) c = getCoin s c := rfl

/-- Adding liquidity: deposits covered, pool-token supply within its maximum. -/
theorem poolMint_safe (s : State) (hok : AmountsOk s) (a : Addr) (c0 c1 : Coin) (a0 a1 : Int) (lp : Coin) (liq : Int)
    (h0 : 0 ≤ a0) (h1 : 0 ≤ a1) (hl : 0 ≤ liq) (hne : c0 ≠ c1) (hb0 : a0 ≤ balanceOf s a c0) (hb1 : a1 ≤ balanceOf s a c1)
    (hmax : optProp (getCoin s lp) fun ci => ci.volume + liq ≤ ci.maxSupply) :
    AmountsOk (applyAll s (Move.poolMint a c0 c1 a0 a1 lp liq).prims) := by
  simp only [Move.prims]
  split
  · exact hok
  · refine ((((hok.prim (p := .addPool c0 c1 a0 a1) (optProp_iff.mpr fun p hp => ?_) nofun).debit hb0).debit
      (by rw [balance_addBal_ne _ _ _ _ _ hne]; exact hb1)).addVolume fun ci hc => ?_).credit _ _ hl
    · have := hok.pools p (findFirst_mem _ _ _ hp).1
      exact ⟨by omega, by omega⟩
    · have hc : getCoin s lp = some ci := hc
      have := hok.coins ci (findFirst_mem _ _ _ hc).1
      exact ⟨by omega, optProp_iff.mp hmax ci hc⟩

/-- Removing liquidity: what leaves the pool is strictly less than its reserves, the pool tokens burnt are held and within the supply. -/
theorem poolBurn_safe (s : State) (hok : AmountsOk s) (a : Addr) (c0 c1 : Coin) (a0 a1 : Int) (lp : Coin) (liq : Int)
    (h0 : 0 ≤ a0) (h1 : 0 ≤ a1) (hl : 0 ≤ liq) (hb : liq ≤ balanceOf s a lp)
    (hpool : optProp (getPool s c0 c1) fun p => a0 < p.r0 ∧ a1 < p.r1)
    (hvol : optProp (getCoin s lp) fun ci => liq ≤ ci.volume) :
    AmountsOk (applyAll s (Move.poolBurn a c0 c1 a0 a1 lp liq).prims) := by
  simp only [Move.prims]
  split
  · exact hok
  · refine ((((hok.prim (p := .addPool c0 c1 (-a0) (-a1)) (hpool.imp fun p hp => ⟨by omega, by omega⟩) nofun).credit a c0 h0).credit a c1
      h1).addVolume fun ci hc => ?_).debit
        (Int.le_trans hb (Int.le_trans (le_balance_credit ((Prim.addPool c0 c1 (-a0) (-a1)).apply s) a c0 h0 _ _) (le_balance_credit _ a c1 h1 _ _)))
    have hc : getCoin s lp = some ci := hc
    have := hok.coins ci (findFirst_mem _ _ _ hc).1
    have := optProp_iff.mp hvol ci hc
    exact ⟨by omega, by omega⟩

theorem poolResAdj_flip (s : State) (hok : PoolsOk s) (adj : Option PoolAdj) (x y : Coin) (rx ry : Int)
    (h : poolResAdj s adj x y = some (rx, ry)) : poolResAdj s adj y x = some (ry, rx) := by
  cases hp : poolRes s x y with
  | none => unfold poolResAdj at h; rw [hp] at h; cases h
  | some r =>
    obtain ⟨r0, r1⟩ := r
    have hne := poolRes_ne s hok x y _ hp
    have hq := poolRes_flip s hok x y r0 r1 hp
    cases adj with
    | none =>
      rw [poolResAdj_none] at h ⊢
      cases hp.symm.trans h
      exact hq
    | some j =>
      rw [poolResAdj_some hp] at h
      rw [poolResAdj_some hq]
      split at h
      · next c1 => rw [if_neg (by omega), if_pos c1]; cases h; rfl
      · split at h
        · next c2 => rw [if_pos c2]; cases h; rfl
        · next c1 c2 => rw [if_neg c2, if_neg c1]; cases h; rfl

theorem ediv_lt_of_lt (liq r vol : Int) (hr : 0 < r) (hv : 0 < vol) (h : liq < vol) : liq * r / vol < r := by
  apply Int.ediv_lt_of_lt_mul hv
  nlinarith

/-- The registry entry of a coin after the commission never has more volume than before, and keeps its maximal supply. -/
theorem frame_coin_le (P : Params) (o : Oracle) (s s1 : State) (payer : Addr) (gas : Coin) (com : Com) (adj : Option PoolAdj) (price : Int)
    (ho : OracleSound o) (hP : 0 ≤ P.minReserve) (hok : AmountsOk s) (hp : 0 ≤ price)
    (hcom : calcCommission P o s gas price = .ok (.ok com)) (hfr : FeeFrame s s1 payer gas com adj) (c : Coin) (ci1 : CoinInfo)
    (h1 : getCoin s1 c = some ci1) : ∃ ci, getCoin s c = some ci ∧ ci1.volume ≤ ci.volume ∧ ci1.maxSupply = ci.maxSupply := by
  rw [frame_getCoin s s1 payer gas com adj c hfr] at h1
  split at h1
  · next hc =>
    obtain ⟨rfl, hfp, hg⟩ := hc
    obtain ⟨ci, hci, rfl⟩ := Option.map_eq_some_iff.mp h1
    have hs := optProp_iff.mp ((calcCommission_sound P o s c price com ho hP hok hp hcom).1 hfp hg) ci hci
    exact ⟨ci, hci, by simp only; omega, rfl⟩
  · exact ⟨ci1, h1, Int.le_refl _, rfl⟩

/-! ### AddLiquidity (21) -/

/-- `hsupply` (the minted pool tokens stay within the token's maximal supply; no handler checks it) and `hlock` of
    `removeLiquidity_typed` are the hypotheses of `C02_add_liquidity` / `C02_remove_liquidity` (Props/C02More.lean), explained there. -/
theorem addLiquidity_typed
    (ho : OracleSound o) (hP : 0 ≤ P.minReserve) (hok : AmountsOk s) (hp0 : 0 ≤ price) (hsorted : PoolsSorted s) (hv0 : 0 ≤ t.int "d.Volume0")
    (hsupply : ∀ paid body tags, payCommission s rd.payer rd.coin rd.com rd.minOut = .ok paid → rd.exec paid.adj = .ok (body, tags) →
      ∀ a c0 c1 a0 a1 lp liq, Move.poolMint a c0 c1 a0 a1 lp liq ∈ body → optProp (getCoin s lp) fun ci => ci.volume + liq ≤ ci.maxSupply)
    (h : runAddLiquidity P o s t price = .ok (.ok rd)) : Checked P o s price rd ∧ BodyKeeps s rd := by
  simp only [runAddLiquidity, guard_ready_iff, withCom_ready_iff] at h
  obtain ⟨hne, -, -, -, com, hcom, h0, h⟩ := h
  split at h
  · cases h
  next r0 r1 hsim =>
  split at h
  · cases h
  next lp _ =>
  simp only [guard_throw_iff, guard_ready_iff, pure_ready_iff, beq_iff_eq, Int.not_le] at h
  obtain ⟨hr0, -, hliq, h1, hg, rfl⟩ := h
  have hne : t.nat "d.Coin0" ≠ t.nat "d.Coin1" := by simpa using hne
  have hf0 := funds_sum_in_coin hg h0
  have hf1 := funds_sum_in_coin hg h1
  refine ⟨⟨hcom, hf0.1⟩, fun s1 paid body tags hpay hfr hok1 he => ?_⟩
  simp only at hpay hfr he
  obtain ⟨hreal, hr0', hr1'⟩ := sim_eq_real s (poolsOk_of s hsorted hok) t.sender t.gasCoin com 0 paid hpay _ _ _ hsim
  simp only at hr0' hr1'
  have hmint := hsupply paid body tags hpay he
  rw [addLiquidityExec_eq s _ _ _ _ lp paid.adj r0 r1 hreal hr0 hliq] at he
  cases he
  rw [planOf_single]
  have ha1 : 0 ≤ t.int "d.Volume0" * r1 / r0 := Int.ediv_nonneg (Int.mul_nonneg hv0 (by omega)) (by omega)
  have hb0 := spend_after_fee s s1 t.sender t.gasCoin _ com paid.adj _ hfr hf0.2
  have hb1 := spend_after_fee s s1 t.sender t.gasCoin _ com paid.adj _ hfr hf1.2
  have hm := hmint _ _ _ _ _ _ _ (List.mem_singleton.mpr rfl)
  have hmax1 : optProp (getCoin s1 lp.id) fun ci => ci.volume + lp.volume * t.int "d.Volume0" / r0 ≤ ci.maxSupply := by
    refine optProp_iff.mpr fun ci1 hc1 => ?_
    obtain ⟨ci, hci, hle, hmx⟩ := frame_coin_le P o s s1 t.sender t.gasCoin com paid.adj price ho hP hok hp0 hcom hfr _ ci1 hc1
    have := optProp_iff.mp hm ci hci
    omega
  unfold sorted2
  split
  · exact poolMint_safe s1 hok1 _ _ _ _ _ _ _ hv0 ha1 (by omega) hne hb0 hb1 hmax1
  · exact poolMint_safe s1 hok1 _ _ _ _ _ _ _ ha1 hv0 (by omega) (fun e => hne e.symm) hb1 hb0 hmax1

/-! ### RemoveLiquidity (22) -/

theorem removeLiquidity_typed (ho : OracleSound o) (hp0 : 0 ≤ price) (hok : AmountsOk s) (hsorted : PoolsSorted s) (hcoins : CoinIdsWf s)
    (hlock : ∀ lp, lpCoin s (t.nat "d.Coin0") (t.nat "d.Coin1") = some lp → balanceOf s t.sender lp.id < lp.volume)
    (h : runRemoveLiquidity P o s t price = .ok (.ok rd)) : Checked P o s price rd ∧ BodyKeeps s rd := by
  simp only [runRemoveLiquidity, guard_ready_iff, withCom_ready_iff, Int.not_le] at h
  obtain ⟨hliq0, -, com, hcom, -, h⟩ := h
  split at h
  · cases h
  next r0 r1 hsim =>
  split at h
  · cases h
  next lp hlp =>
  simp only [guard_throw_iff, guard_ready_iff, pure_ready_iff, beq_iff_eq, Bool.or_eq_true, decide_eq_true_eq, not_or, Int.not_lt] at h
  obtain ⟨h1, h2, hvol, ⟨hm0, hm1⟩, rfl⟩ := h
  have hcnn := calcCommission_nonneg P o s t.gasCoin price com ho hp0 hcom
  have hlk := hlock lp hlp
  have hlpok := hok.coins lp (findFirst_mem _ _ _ hlp).1
  have hf := funds_sum_in_gas (Int.le_of_lt hliq0) h1 (Int.not_lt.mpr h2)
  refine ⟨⟨hcom, hf.1⟩, fun s1 paid body tags hpay hfr hok1 he => ?_⟩
  simp only at hpay hfr he
  have hpok := poolsOk_of s hsorted hok
  obtain ⟨hreal, hr0, hr1⟩ := sim_eq_real s hpok t.sender t.gasCoin com 0 paid hpay _ _ _ hsim
  simp only at hr0 hr1
  rw [removeLiquidityExec_eq s _ _ _ _ _ _ lp paid.adj r0 r1 hreal hm0 hm1] at he
  cases he
  rw [planOf_single]
  have hvpos : 0 < lp.volume := by omega
  have hliq : t.int "d.Liquidity" < lp.volume := by have := hf.2; split at this <;> omega
  have hx0 : 0 ≤ t.int "d.Liquidity" * r0 / lp.volume := Int.ediv_nonneg (Int.mul_nonneg (by omega) (by omega)) (by omega)
  have hx1 : 0 ≤ t.int "d.Liquidity" * r1 / lp.volume := Int.ediv_nonneg (Int.mul_nonneg (by omega) (by omega)) (by omega)
  have hl0 := ediv_lt_of_lt (t.int "d.Liquidity") r0 lp.volume hr0 hvpos hliq
  have hl1 := ediv_lt_of_lt (t.int "d.Liquidity") r1 lp.volume hr1 hvpos hliq
  have hb := spend_after_fee s s1 t.sender t.gasCoin _ com paid.adj _ hfr hf.2
  have hvol1 : optProp (getCoin s1 lp.id) fun ci => t.int "d.Liquidity" ≤ ci.volume := by
    rw [frame_getCoin s s1 t.sender t.gasCoin com paid.adj lp.id hfr, hcoins lp (findFirst_mem _ _ _ hlp).1]
    have := hf.2
    split
    · next hc => simp only [Option.map, optProp_some]; simp only [hc.1, if_true] at this; omega
    · simp only [optProp_some]; omega
  -- the reserves the entry of the pool carries after the commission, in either orientation, are those of the validation
  have hentry : ∀ x y q0 q1, poolResAdj s paid.adj x y = some (q0, q1) → ∀ a0 a1, a0 < q0 → a1 < q1 →
      optProp (getPool s1 x y) fun p => a0 < p.r0 ∧ a1 < p.r1 := by
    intro x y q0 q1 hq a0 a1 ha0 ha1
    refine optProp_iff.mpr fun p1 hp1 => ?_
    cases (getPool_frame s s1 t.sender t.gasCoin com paid.adj hfr hsorted _ _ p1 hp1).symm.trans hq
    exact ⟨ha0, ha1⟩
  unfold sorted2
  split
  · exact poolBurn_safe s1 hok1 _ _ _ _ _ _ _ hx0 hx1 (by omega) hb (hentry _ _ _ _ hreal _ _ hl0 hl1) hvol1
  · exact poolBurn_safe s1 hok1 _ _ _ _ _ _ _ hx1 hx0 (by omega) hb
      (hentry _ _ _ _ (poolResAdj_flip s hpok paid.adj _ _ _ _ hreal) _ _ hl1 hl0) hvol1

end Minter
