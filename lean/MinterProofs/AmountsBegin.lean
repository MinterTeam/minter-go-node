import MinterProofs.AmountsCore
import MinterProofs.Begin
/-
  C02 for BeginBlock (`beginBlock`, MinterModel/BeginBlock.lean): absence accounting moves nothing, a byzantine slash keeps 95 % (≥ 0) of
  every frozen fund and stake and takes the cut out of the coin's volume and — under `OracleSound` — its sale return out of the reserve,
  matured funds are credited / delegated / re-frozen with their (non-negative) value.
-/
namespace Minter

theorem vals_setting {s : State} (hok : AmountsOk s) (p : Validator → Bool) (g : Validator → Validator)
    (hg : ∀ v, (g v).accum = v.accum) : ∀ v ∈ updFirst p g s.validators, 0 ≤ v.accum :=
  all_updFirst (fun x : Validator => 0 ≤ x.accum) _ _ _ hok.validators
    (fun y hy => hg y ▸ hok.validators y (findFirst_mem _ _ _ hy).1)

variable {P : Params} {o : Oracle} {h u a lo hi cid : Nat} {g : Bool} {s s' : State} {ev : List BEvent}
  {coin : Coin} {v : Int} {p p' : ByzPots}

/-! ### Absence accounting -/

theorem setPresent_ok (h a : Nat) (s : State) (hok : AmountsOk s) : AmountsOk (setPresent h a s) :=
  { hok with balances := hok.balances, validators := vals_setting hok _ _ (fun _ => rfl) }

theorem setAbsent_ok (hr : setAbsent P h g a s = .ok (s', ev)) (hok : AmountsOk s) : AmountsOk s' := by
  rcases setAbsent_cases hr with rfl | ⟨_, rfl⟩ | ⟨_, rfl⟩
  · exact hok
  · exact { hok with balances := hok.balances, validators := vals_setting hok _ _ (fun _ => rfl) }
  · exact { hok with balances := hok.balances, stakes := cands_setting s hok _ _ (fun _ => ⟨rfl, rfl⟩),
                     validators := vals_setting hok _ _ (fun _ => rfl) }

theorem absencePhase_ok (P : Params) (h : Nat) (g : Bool) (vs : List (Nat × Bool)) (s s' : State) (ev : List BEvent)
    (hr : absencePhase P h g vs s = .ok (s', ev)) : AmountsOk s → AmountsOk s' :=
  absencePhase_lift (R := fun s s' => AmountsOk s → AmountsOk s') (fun _ => id) (fun f g => g ∘ f)
    (setPresent_ok h) setAbsent_ok hr

/-! ### Byzantine punishment -/

def PotsOk (p : ByzPots) : Prop := (∀ ci ∈ p.coins, CoinOk ci) ∧ 0 ≤ p.slashed

/-- The cut of a slash is covered by the volume of the coin (base coin: nothing to cover). The node does not check this; it
    holds when the coin's volume equals its holdings (C01), an implication that is not proved. -/
def slashFits (coin : Coin) (v : Int) (p : ByzPots) : Prop :=
  coin = 0 ∨ optProp (findFirst (coinById coin) p.coins) fun ci => byzCut v ≤ ci.volume

theorem slashPots_ok (ho : OracleSound o) (hv : 0 ≤ v)
    (hfit : slashFits coin v p) (hp : PotsOk p) (h : slashPots o coin v p = .ok p') : PotsOk p' := by
  have hcut := byzCut_nonneg v hv
  have hs0 := hp.2
  rcases slashPots_cases h with ⟨_, rfl⟩ | ⟨hc, ci, ret, hci, hret, rfl⟩
  · exact ⟨hp.1, by simp only; omega⟩
  · have hciok := hp.1 ci (findFirst_mem _ _ _ hci).1
    have hfit' : byzCut v ≤ ci.volume := by simpa only [slashFits, hc, hci, false_or, optProp_some] using hfit
    have hr0 := ho.nonneg _ _ hret
    have hr1 := ho.saleReturnLeReserve _ _ _ _ _ hret hcut hfit'
    refine ⟨all_updFirst CoinOk _ _ p.coins hp.1 (fun y hy => ?_), by simp only; omega⟩
    cases hci.symm.trans hy
    exact ⟨by simp only; omega, by simp only; omega, by simp only; omega⟩

/-- Every slash of `PunishFrozenFundsWithID` is covered, in the order the loop takes them. -/
def punishFrozenFits (o : Oracle) (lo hi cid : Nat) : List Frozen → ByzPots → Prop
  | [], _ => True
  | f :: t, p =>
    if inWindow lo hi cid f then
      slashFits f.coin f.value p ∧
        (match slashPots o f.coin f.value p with
         | .ok p1 => punishFrozenFits o lo hi cid t p1
         | .error _ => True)
    else punishFrozenFits o lo hi cid t p

def punishStakesFits (o : Oracle) : List Stake → ByzPots → Prop
  | [], _ => True
  | st :: t, p =>
    slashFits st.coin st.value p ∧
      (match slashPots o st.coin st.value p with
       | .ok p1 => punishStakesFits o t p1
       | .error _ => True)

theorem punishFrozen_ok {l l' : List Frozen} (ho : OracleSound o) (hl : ∀ f ∈ l, 0 ≤ f.value) (hp : PotsOk p)
    (hfit : punishFrozenFits o lo hi cid l p) (h : punishFrozen o lo hi cid l p = .ok (l', p', ev)) : PotsOk p' := by
  induction l generalizing p l' ev with
  | nil => cases h; exact hp
  | cons f t ih =>
    obtain ⟨p1, t', ev', h1, h2, rfl⟩ := punishFrozen_cons h
    have hlt := fun x hx => hl x (List.mem_cons_of_mem _ hx)
    simp only [punishFrozenFits] at hfit
    by_cases hw : inWindow lo hi cid f = true
    · rw [if_pos hw] at h1 hfit
      rw [h1] at hfit
      exact ih hlt (slashPots_ok ho (hl f (List.mem_cons_self ..)) hfit.1 hp h1) hfit.2 h2
    · rw [if_neg hw] at h1 hfit
      exact ih hlt (h1 ▸ hp) (h1 ▸ hfit) h2

theorem punishStakes_ok {l : List Stake} (ho : OracleSound o) (hl : ∀ st ∈ l, 0 ≤ st.value) (hp : PotsOk p)
    (hfit : punishStakesFits o l p) (h : punishStakes o l p = .ok p') : PotsOk p' := by
  induction l generalizing p with
  | nil => cases h; exact hp
  | cons st t ih =>
    simp only [punishStakes] at h
    simp only [punishStakesFits] at hfit
    split at h
    · cases h
    · next p1 hp1 =>
      rw [hp1] at hfit
      exact ih (fun x hx => hl x (List.mem_cons_of_mem _ hx))
        (slashPots_ok ho (hl st (List.mem_cons_self ..)) hfit.1 hp hp1) hfit.2 h

def byzStepFits (P : Params) (o : Oracle) (h a : Nat) (s : State) : Prop :=
  match byzTarget a s with
  | none => True
  | some (_, c) =>
    punishFrozenFits o h (h + P.unbond) c.id s.frozen ⟨s.coins, s.slashed⟩ ∧
      (match punishFrozen o h (h + P.unbond) c.id s.frozen ⟨s.coins, s.slashed⟩ with
       | .ok (_, p1, _) => punishStakesFits o c.stakes p1
       | .error _ => True)

def byzPhaseFits (P : Params) (o : Oracle) (h : Nat) : List Nat → State → Prop
  | [], _ => True
  | a :: t, s =>
    byzStepFits P o h a s ∧
      (match byzStep P o h a s with
       | .ok (s1, _) => byzPhaseFits P o h t s1
       | .error _ => True)

theorem byzStep_ok (ho : OracleSound o) (hfit : byzStepFits P o h a s) (hr : byzStep P o h a s = .ok (s', ev))
    (hok : AmountsOk s) : AmountsOk s' := by
  rcases byzStep_cases hr with ⟨_, rfl⟩ | ⟨v, c, p1, ev1, p2, ht, h1, h2, rfl⟩
  · exact hok
  simp only [byzStepFits, ht, h1] at hfit
  have hstk := (hok.stakes c (findFirst_mem _ _ _ (byzTarget_eq_some.mp ht).2.2.1).1).1
  have hp2 := punishStakes_ok ho hstk (punishFrozen_ok ho hok.frozen ⟨hok.coins, hok.slashed⟩ hfit.1 h1) hfit.2 h2
  refine { hok with balances := hok.balances, coins := hp2.1, slashed := hp2.2, frozen := ?_,
                    validators := vals_setting hok _ _ (fun _ => rfl), stakes := ?_ }
  · refine all_updFirst StakesOk _ _ s.candidates hok.stakes (fun y hy => ⟨fun st hst => ?_, ?_⟩)
    · obtain ⟨st0, _, rfl⟩ := List.mem_map.mp hst
      exact Int.le_refl 0
    · exact (hok.stakes y (findFirst_mem _ _ _ hy).1).2
  · intro f hf
    rcases List.mem_append.mp hf with hf | hf
    · obtain ⟨f0, hf0, rfl⟩ := List.mem_map.mp hf
      exact (slashBy_value_le h (h + P.unbond) [c.id] f0 (hok.frozen f0 hf0)).1
    · obtain ⟨st, hst, rfl⟩ := List.mem_map.mp hf
      exact byzKeep_nonneg _ (hstk st hst)

theorem byzPhase_ok (P : Params) (o : Oracle) (h : Nat) (ho : OracleSound o) (l : List Nat) (s s' : State) (ev : List BEvent)
    (hfit : byzPhaseFits P o h l s) (hr : byzPhase P o h l s = .ok (s', ev)) (hok : AmountsOk s) : AmountsOk s' := by
  induction l generalizing s ev with
  | nil => cases hr; exact hok
  | cons a t ih =>
    obtain ⟨s1, e1, e2, h1, h2, rfl⟩ := seq_ok hr
    simp only [byzPhaseFits, h1] at hfit
    exact ih s1 e2 hfit.2 h2 (byzStep_ok ho hfit.1 h1 hok)

/-! ### Matured funds -/

theorem matureOne_ok {f : Frozen} (hf : 0 ≤ f.value) (hr : matureOne u h f s = .ok (s', ev)) (hok : AmountsOk s) :
    AmountsOk s' := by
  rcases matureOne_cases hr with ⟨_, rfl⟩ | ⟨_, _, rfl⟩ | ⟨_, _, hc, rfl⟩
  · exact primSafe_preserves s _ hok rfl (Int.add_nonneg (hok.balances _ _) hf)
  · exact primSafe_preserves s _ hok rfl hf
  · exact primSafe_preserves s _ hok (any_of_findFirst _ _ _ hc) hf

theorem maturityPhase_ok (u h : Nat) (s s' : State) (ev : List BEvent) (hr : maturityPhase u h s = .ok (s', ev))
    (hok : AmountsOk s) : AmountsOk s' := by
  obtain ⟨s1, h1, rfl⟩ := maturityPhase_inv hr
  have hok1 := matureAll_lift (R := fun s s' => AmountsOk s → AmountsOk s') (fun _ => id) (fun f g => g ∘ f)
    (fun f hf _ _ _ => matureOne_ok (hok.frozen f (List.mem_filter.mp hf).1)) h1 hok
  exact { hok1 with balances := hok1.balances, frozen := fun f hf => hok1.frozen f (List.mem_filter.mp hf).1 }

end Minter
