import MinterModel.Block
import MinterProofs.Begin
import MinterProofs.Moves
import MinterProofs.Props.C19
/-
  Accounting of the steps of a block.  `Books s s' dv db de` names what a step from `s` to `s'` does to the books of C01, and
  steps compose by adding the deltas.  The steps of EndBlock that are sequences of ledger primitives (order expiry, payout,
  emission) get their deltas from the sums of the declared effects of their plans (`PlanBooks`), the accrual step from C19.
  No hypothesis on the state.  Section numbers are the steps of `endBlock` in MinterModel/Block.lean.
-/
namespace Minter

/-- From `s` to `s'` each coin's volume-minus-holdings moves by `dv`, the base total by `db`, the emission counter by `de`:
  the three quantities of C01, as a relation that composes (`Books.trans`) along a block. -/
structure Books (s s' : State) (dv : Coin → Int) (db de : Int) : Prop where
  coin : ∀ c, c ≠ 0 → volumeOf s' c - holdings s' c = volumeOf s c - holdings s c + dv c
  base : baseTotal s' = baseTotal s + db
  emission : s'.emission = s.emission + de

theorem Books.refl (s : State) : Books s s (fun _ => 0) 0 0 :=
  ⟨fun _ _ => (Int.add_zero _).symm, (Int.add_zero _).symm, (Int.add_zero _).symm⟩

theorem Books.trans {a b c : State} {dv dv' : Coin → Int} {db db' de de' : Int}
    (h : Books a b dv db de) (h' : Books b c dv' db' de') : Books a c (fun k => dv k + dv' k) (db + db') (de + de') :=
  ⟨fun k hk => by rw [h'.coin k hk, h.coin k hk, Int.add_assoc], by rw [h'.base, h.base, Int.add_assoc],
   by rw [h'.emission, h.emission, Int.add_assoc]⟩

def Prim.dPool : Prim → Int
  | .addRewards v => v
  | _ => 0

theorem apply_pool (s : State) (p : Prim) : (p.apply s).rewardsPool = s.rewardsPool + p.dPool := by
  cases p
  case addRewards v => rfl
  all_goals exact (Int.add_zero _).symm

theorem checked_pool (s s' : State) (ps : List Prim) (h : applyChecked s ps = some s') :
    s'.rewardsPool = s.rewardsPool + sumBy Prim.dPool ps :=
  checked_sum (·.rewardsPool) Prim.dPool (fun s p _ => apply_pool s p) s s' ps h

theorem applyPlan_ok (s s' : State) (ps : List Prim) (h : applyPlan s ps = .ok s') : applyChecked s ps = some s' := by
  unfold applyPlan at h
  split at h
  · next x hx => cases h; exact hx
  · cases h

/-- What `Books … (fun _ => 0) db de` asks of a plan, read off its primitives alone (`PlanBooks.books`);
  unlike `Balanced` it lets base coin and emission move, by the amounts named. -/
structure PlanBooks (ps : List Prim) (db de : Int) : Prop where
  coin : ∀ c, c ≠ 0 → sumHold c ps = sumVol c ps
  base : sumHold 0 ps + sumSide ps = db
  pool : sumBy Prim.dPool ps = 0
  emission : sumEmission ps = de

theorem PlanBooks.books {ps : List Prim} {db de : Int} (hp : PlanBooks ps db de) {s s' : State}
    (h : applyPlan s ps = .ok s') : Books s s' (fun _ => 0) db de := by
  have h := applyPlan_ok _ _ _ h
  obtain ⟨hv, hbase, he⟩ := checked_books s s' ps h
  refine ⟨fun c hc => by rw [hv c, hp.coin c hc, Int.sub_self], ?_, hp.emission ▸ he⟩
  have := checked_pool _ _ _ h
  rw [hp.base, baseTotalP, baseTotalP] at hbase
  rw [hp.pool] at this
  omega

theorem PlanBooks.nil : PlanBooks [] 0 0 := ⟨fun _ _ => rfl, rfl, rfl, rfl⟩

theorem PlanBooks.append {p q : List Prim} {db db' de de' : Int} (h : PlanBooks p db de) (h' : PlanBooks q db' de') :
    PlanBooks (p ++ q) (db + db') (de + de') := by
  refine ⟨fun c hc => ?_, ?_, ?_, ?_⟩
  · simp only [sumHold, sumVol, sumBy_append]
    exact congrArg₂ (· + ·) (h.coin c hc) (h'.coin c hc)
  · rw [← h.base, ← h'.base]; simp only [sumHold, sumSide, sumBy_append]; omega
  · rw [sumBy_append, h.pool, h'.pool]; rfl
  · rw [← h.emission, ← h'.emission]; exact sumBy_append _ _ _

theorem PlanBooks.flatMap {α : Type} (g : α → List Prim) (b e : α → Int) (l : List α)
    (h : ∀ x, PlanBooks (g x) (b x) (e x)) : PlanBooks (l.flatMap g) (sumBy b l) (sumBy e l) := by
  induction l with
  | nil => exact .nil
  | cons x t ih => exact (h x).append ih

/-! ### 1–3 accrual -/

theorem accrueStep_books (s : State) (signed : List Nat) (e : Rules.Emit) :
    Books s (accrueStep s signed e) (fun _ => 0) (e.toValidators + s.rewardsPool) 0 := by
  refine ⟨fun _ _ => (Int.add_zero _).symm, ?_, (Int.add_zero _).symm⟩
  have h := endBlockAccrue_conserves (e.toValidators + s.rewardsPool) s.validators (presentOf s signed)
  simp only [accumOf] at h
  show holdings s 0 + totalReserve s + totalAccum (accrueStep s signed e) + (accrueStep s signed e).slashed = _
  simp only [baseTotal, totalAccum, accrueStep]
  omega

/-! ### 4 order expiry -/

/-- An expired order gives back what `Move.orderRemove` gives back. -/
theorem orderRefund_eq (o : Order) : orderRefund o = (o.escrowCoin, o.escrowValue) := by
  unfold orderRefund Order.escrowCoin Order.escrowValue
  cases o.isSale <;> rfl

theorem expireOne_books (o : Order) : PlanBooks (expireOne o) 0 0 := by
  unfold expireOne
  rw [orderRefund_eq]
  split
  · next h0 =>
    dsimp only at h0
    exact ⟨fun c _ => by bal [h0, only, ite_self], by bal [h0, only, ite_self], rfl, rfl⟩
  · exact ⟨fun c _ => by bal [], by bal [], rfl, rfl⟩

theorem expirePlan_books (os : List Order) : PlanBooks (expirePlan os) 0 0 := by
  have h := PlanBooks.flatMap expireOne _ _ os expireOne_books
  rwa [sumBy_zero] at h

/-! ### 5 payout -/

/-- One validator: the payments become holdings of the base coin, the accumulated reward leaves the side pots, the remainder
    enters them. -/
theorem payPlanOne_books (x : PayoutOf) :
    PlanBooks (payPlanOne x) (paidTotal x.out.payments + (x.out.remainder - x.val.accum)) 0 := by
  unfold payPlanOne
  exact ⟨fun c hc => by bal [sumBy_append, sumBy_map, only_ne (Ne.symm hc)],
    by bal [sumBy_append, sumBy_map, sumBy_zero, paidTotal],
    by simp only [sumBy_append, sumBy_map, sumBy, Prim.dPool, sumBy_zero]; rfl,
    by bal [sumBy_append, sumBy_map, sumBy_zero]⟩

theorem mem_payoutsOf {s : State} {hpay : Nat} {period : Int} {x : PayoutOf} (hx : x ∈ payoutsOf s hpay period) :
    x.val ∈ s.validators ∧ x.cand ∈ s.candidates ∧
      x.out = payout (payInOf s hpay period (totalAccum s)
        (if totalAccum s > 0 then 0 else sumBy (fun v => v.totalBip) s.validators) x.val x.cand) := by
  simp only [payoutsOf, List.mem_filterMap] at hx
  obtain ⟨v, hv, hx⟩ := hx
  split at hx
  · cases hx
  · next c hc => cases hx; exact ⟨hv, (findFirst_mem _ _ _ hc).1, rfl⟩

theorem payPlan_balance (xs : List PayoutOf)
    (hb : ∀ x ∈ xs, paidTotal x.out.payments + x.out.remainder + x.out.lost = x.val.accum + x.out.more) :
    PlanBooks (payPlan xs) (moreOf xs - lostOf xs) (moreOf xs) := by
  have h := (PlanBooks.flatMap payPlanOne _ _ xs payPlanOne_books).append
    (⟨fun _ _ => rfl, rfl, rfl, Int.add_zero _⟩ : PlanBooks [.addEmission (moreOf xs)] 0 (moreOf xs))
  rwa [Int.add_zero, sumBy_zero, Int.zero_add,
    sumBy_congr_mem _ (fun x => x.out.more - x.out.lost) _ (fun x hx => by have := hb x hx; omega), sumBy_sub] at h

theorem payoutsOf_books (s : State) (hpay : Nat) (period : Int) :
    PlanBooks (payPlan (payoutsOf s hpay period)) (moreOf (payoutsOf s hpay period) - lostOf (payoutsOf s hpay period))
      (moreOf (payoutsOf s hpay period)) :=
  payPlan_balance _ fun _ hx => (mem_payoutsOf hx).2.2 ▸ payout_balance _

theorem payoutsOf_plan (s : State) (hpay : Nat) (period : Int) :
    sumHold 0 (payPlan (payoutsOf s hpay period)) + sumSide (payPlan (payoutsOf s hpay period))
      = moreOf (payoutsOf s hpay period) - lostOf (payoutsOf s hpay period) :=
  (payoutsOf_books s hpay period).base

/-- `b`: whether the block is a payout block. -/
theorem payStep_books (b : Bool) (s s' : State) (hpay : Nat) (period : Int) (xs : List PayoutOf)
    (hx : (if b then payoutsOf s hpay period else []) = xs) (h : applyPlan s (if b then payPlan xs else []) = .ok s') :
    Books s s' (fun _ => 0) (moreOf xs - lostOf xs) (moreOf xs) := by
  subst hx
  cases b with
  | true => exact (payoutsOf_books s hpay period).books h
  | false => exact PlanBooks.nil.books h

def payValOf (s : State) (v : Validator) : PayVal :=
  match findFirst (fun c => c.pubkey == v.pubkey) s.candidates with
  | none => { id := v.pubkey, accum := v.accum, valStake := v.totalBip, commission := 0, rewardAddr := 0, stakes := [], hasCandidate := false }
  | some c =>
    { id := v.pubkey, accum := v.accum, valStake := v.totalBip, commission := c.commission, rewardAddr := c.reward,
      stakes := c.stakes.map (fun st => { owner := st.owner, coin := st.coin, bip := st.bip,
                                          lockUntil := (s.lockStake.lookup st.owner).getD 0 }) }

theorem payVals_eq (s : State) (vals : List Validator) : payVals s vals = vals.map (payValOf s) := rfl

theorem payValOf_totals (s : State) (v : Validator) :
    (payValOf s v).accum = v.accum ∧ (payValOf s v).valStake = v.totalBip := by
  unfold payValOf; split <;> exact ⟨rfl, rfl⟩

/-- `payoutAll` is the function the harness mode `valid` ties to the node. -/
theorem payoutsOf_eq_payoutAll (s : State) (hpay : Nat) (period : Int) :
    (payoutsOf s hpay period).map (fun x => (x.val.pubkey, x.out))
      = payoutAll hpay s.reward s.safeReward period daoAddress devAddress (payVals s s.validators) := by
  unfold payoutsOf payoutAll
  simp only [payVals_eq, sumBy_map, payValOf_totals]
  rw [totalAccum]
  -- both sides now read the same two totals; validator by validator they agree by the definition of `payValOf`
  generalize sumBy (fun v : Validator => v.accum) s.validators = tA
  generalize (if tA > 0 then 0 else sumBy (fun v : Validator => v.totalBip) s.validators) = tS
  generalize s.validators = vals
  induction vals with
  | nil => rfl
  | cons v t ih =>
    rw [List.filterMap_cons, List.map_cons, List.filter_cons, payValOf]
    cases findFirst (fun c => c.pubkey == v.pubkey) s.candidates with
    | none => exact ih
    | some c => exact congrArg _ ih

/-! ### 6 emission -/

theorem emitPlan_books (em : Int) (e : Rules.Emit) (h0 : 0 ≤ e.toZero) :
    PlanBooks (emitPlan em e) e.toZero (e.emission - em) := by
  unfold emitPlan
  split
  · exact ⟨fun c hc => by bal [only_ne (Ne.symm hc)], by bal [], rfl, by bal []⟩
  · exact ⟨fun _ _ => rfl, by bal [], rfl, by bal []⟩

theorem emitStep_books (em cap rw sf : Int) :
    PlanBooks (if decide (em < cap) = true then emitPlan em (Rules.blockEmission em cap rw sf) else [])
      (Rules.blockEmission em cap rw sf).toZero ((Rules.blockEmission em cap rw sf).emission - em) := by
  unfold Rules.blockEmission
  by_cases hcap : em < cap
  · rw [if_pos (decide_eq_true hcap), if_pos hcap]
    exact emitPlan_books em _ (by dsimp only; split <;> omega)
  · rw [if_neg (by simpa using hcap), if_neg hcap]
    exact (Int.sub_self em).symm ▸ PlanBooks.nil

/-- The `overMint` term of `EndDefect`: the pot and the zero address get more than the emission counter records. -/
theorem overMint_eq (em cap rw sf : Int) :
    (Rules.blockEmission em cap rw sf).toValidators + (Rules.blockEmission em cap rw sf).toZero
        - ((Rules.blockEmission em cap rw sf).emission - em)
      = if em < cap ∧ sf < rw then rw - sf else 0 := by
  unfold Rules.blockEmission
  by_cases hc : em < cap
  · simp only [hc, if_true, true_and]
    split <;> split <;> omega
  · simp [hc]

end Minter
