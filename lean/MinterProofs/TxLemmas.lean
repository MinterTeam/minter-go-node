import MinterModel.Tx
import MinterProofs.Moves
/-
  Inversion lemmas for DeliverTx: each turns `f … = .ok x`, for one layer `f` of the executor, into what `f` checked and
  built on the way.  After them: that no layer answers code 0 on a failure path, the pool lookups (`PoolsOk`, `poolRes_cases`,
  `poolResAdj_none/_some`), and the exact balance effect of a plan (`sumBal`).
-/
namespace Minter

/-! ### Handlers

  A handler is a chain of guards `if c then reject k else …` around `withCom … fun com => …` and ends in `ready`.  The
  lemmas below turn `handler = .ok (.ok rd)` into the conjunction of the negated guards, the computed commission and the
  value of `rd`, by rewriting (`simp only [runX, guard_ready_iff, withCom_ready_iff, ready_iff] at h`); only a `match` inside the
  handler is split, where it occurs. -/

theorem reject_ne_ready (c : Nat) (rd : Ready) : reject c ≠ .ok (.ok rd) := by
  intro h; cases h

/-- A passed guard that would have answered a response code; `reject k` is `pure (.error k)` in a handler. -/
theorem code_guard_iff {α : Type} {c : Prop} [Decidable c] {k : Nat} {m : M (Except Nat α)} {x : α} :
    (if c then pure (.error k) else m) = .ok (.ok x) ↔ ¬c ∧ m = .ok (.ok x) := by
  split <;> simp [*, pure, Except.pure]

theorem guard_ready_iff {c : Prop} [Decidable c] {k : Nat} {h : Handler} {rd : Ready} :
    (if c then reject k else h) = .ok (.ok rd) ↔ ¬c ∧ h = .ok (.ok rd) :=
  code_guard_iff

theorem withCom_ready_iff {P : Params} {o : Oracle} {s : State} {gas : Coin} {price : Int} {k : Com → Handler} {rd : Ready} :
    withCom P o s gas price k = .ok (.ok rd) ↔ ∃ com, calcCommission P o s gas price = .ok (.ok com) ∧ k com = .ok (.ok rd) := by
  unfold withCom
  split <;> simp [*, reject_ne_ready]

theorem ready_iff {t : TxIn} {com : Com} {body : List Move} {tags : List (String × String)} {rd : Ready} :
    ready t com body tags = .ok (.ok rd) ↔
      rd = { payer := t.sender, coin := t.gasCoin, com := com, exec := fun _ => pure (body, tags) } := by
  simp [ready, pure, Except.pure, eq_comm]

theorem guard_throw_iff {α : Type} {c : Prop} [Decidable c] {e : Stop} {m : M α} {x : α} :
    (if c then throw e else m) = .ok x ↔ ¬c ∧ m = .ok x := by
  split <;> simp [*, throw, throwThe, MonadExceptOf.throw]

theorem pure_ready_iff {r rd : Ready} : (pure (.ok r) : Handler) = .ok (.ok rd) ↔ rd = r := by
  simp [pure, Except.pure, eq_comm]

/-! ### Check chains that answer `Option Nat` (the prologue, `bancorBasic`, `routeBasic`) -/

theorem ite_some_eq_none {α : Type} {c : Prop} [Decidable c] {a : α} {x : Option α} :
    (if c then some a else x) = none ↔ ¬c ∧ x = none := by
  split <;> simp [*]

theorem ite_some_eq_some {α : Type} {c : Prop} [Decidable c] {a b : α} {x : Option α} :
    (if c then some a else x) = some b ↔ (c ∧ a = b) ∨ (¬c ∧ x = some b) := by
  split <;> simp [*]

/-! ### The prologue -/

theorem multisigCheck_go_ne_zero (ms : Multisig) (rest : List (Option Addr)) (used : List Addr) (w : Nat) :
    multisigCheck.go ms rest used w ≠ some 0 := by
  induction rest generalizing used w with
  | nil => simp only [multisigCheck.go]; split <;> simp
  | cons x r ih =>
    cases x with
    | none => simp [multisigCheck.go]
    | some a =>
      simp only [multisigCheck.go]
      split
      · simp
      · exact ih _ _

theorem multisigCheck_ne_zero (s : State) (t : TxIn) : multisigCheck s t ≠ some 0 := by
  unfold multisigCheck
  split
  · simp
  · split
    · simp
    · exact multisigCheck_go_ne_zero _ _ _ _

/-- Every code the prologue returns is a non-zero literal or comes from `multisigCheck`. -/
theorem prologueF_ne_zero (P : Params) (s : State) (b : Nat) (t : TxIn) (fl : Nat) : prologueF P s b t fl ≠ some 0 := by
  intro h
  simp only [prologueF, ite_some_eq_some, Nat.reduceEqDiff, and_false, false_or] at h
  -- the nine checks up to the signature answer fixed non-zero codes; what is left is the multisig check and the nonce
  obtain ⟨-, -, -, -, -, -, -, -, -, h⟩ := h
  split at h
  · next c hc =>
    cases h
    split at hc
    · exact multisigCheck_ne_zero s t hc
    · cases hc
  · simp only [ite_some_eq_some, and_false, false_or, reduceCtorEq] at h

theorem prologue_ne_zero (P : Params) (s : State) (b : Nat) (t : TxIn) : prologue P s b t ≠ some 0 :=
  prologueF_ne_zero P s b t 0

theorem prologueF_none (P : Params) (s : State) (b : Nat) (t : TxIn) (fl : Nat) (h : prologueF P s b t fl = none) :
    t.dec = true ∧ t.chain = P.chain ∧ coinExists s t.comCoin = true ∧ fl ≤ t.gasPrice ∧ t.sigOk = true ∧
    (t.sigType = 2 → multisigCheck s t = none) ∧ nonceOf s t.sender + 1 = t.nonce := by
  simp only [prologueF, ite_some_eq_none, Bool.not_eq_true', Bool.not_eq_false, bne_iff_ne, ne_eq, Decidable.not_not,
    Nat.not_lt] at h
  obtain ⟨-, hdec, -, hchain, hcoin, hfl, -, -, hsig, h⟩ := h
  split at h
  · cases h
  · next hm =>
    refine ⟨hdec, hchain, hcoin, hfl, hsig, fun h2 => ?_, ?_⟩
    · simpa [h2] using hm
    · simpa [ite_some_eq_none] using h

theorem prologue_none (P : Params) (s : State) (b : Nat) (t : TxIn) (h : prologue P s b t = none) :
    t.dec = true ∧ t.chain = P.chain ∧ t.sigOk = true ∧ nonceOf s t.sender + 1 = t.nonce ∧
    (t.sigType = 2 → multisigCheck s t = none) := by
  obtain ⟨h1, h2, -, -, h5, h6, h7⟩ := prologueF_none P s b t 0 h
  exact ⟨h1, h2, h5, h7, h6⟩

/-! ### The outcome of a delivery -/

theorem checkSwapQuote_code_ne_zero (r0 r1 vi vo : Int) (b : Bool) (c : Nat) (h : checkSwapQuote r0 r1 vi vo b = .ok (.error c)) : c ≠ 0 := by
  unfold checkSwapQuote at h
  split at h
  · split at h
    · cases h
    · cases h; decide
    · split at h
      · cases h; decide
      · cases h
  · split at h
    · cases h
    · cases h; decide
    · next x _ =>
      by_cases hx : x < (if vo = 0 then 1 else vo)
      · simp only [hx, if_true] at h; cases h; decide
      · simp only [hx, if_false] at h; cases h

theorem toBase_code_ne_zero (s : State) (a : Int) (c : Nat) (h : toBase s a = .ok (.error c)) : c ≠ 0 := by
  unfold toBase at h
  split at h
  · cases h
  · split at h
    · cases h
    · split at h
      · cases h
      · exact checkSwapQuote_code_ne_zero _ _ _ _ _ _ h

theorem basePrice_code_ne_zero (s : State) (t : TxIn) (c : Nat) (h : basePrice s t = .ok (.error c)) : c ≠ 0 := by
  unfold basePrice at h
  simp only at h
  split at h
  · cases h; decide
  split at h
  · cases h
  · split at h
    · cases h
    · next c' hb => cases h; exact toBase_code_ne_zero _ _ _ hb
    · split at h
      · cases h; decide
      · cases h

theorem execReady_ok (s : State) (rd : Ready) (r : Outcome) (h : execReady s rd = .ok r) :
    ∃ paid body tags, payCommission s rd.payer rd.coin rd.com rd.minOut = .ok paid ∧ rd.exec paid.adj = .ok (body, tags) ∧
      r.code = 0 ∧ r.moves = paid.moves ++ body ∧
      r.tags = [("tx.commission_amount", toString paid.amount), ("tx.commission_in_base_coin", toString paid.inBase)] ++ tags := by
  unfold execReady at h
  split at h
  · cases h
  · next paid hp =>
    split at h
    · cases h
    · next body tags he => cases h; exact ⟨paid, body, tags, hp, he, rfl, rfl, rfl⟩

/-- Types 5 and 30 are CreateCoin and CreateToken. -/
theorem tickerBurn_eq_ok (s : State) (t : TxIn) (burn : List Move) (tags : List (String × String))
    (h : tickerBurn s t = .ok (burn, tags)) :
    (burn = [] ∧ tags = []) ∨ ((t.typ = 5 ∨ t.typ = 30) ∧
      ∃ v, 0 < v ∧ toBase s ((t.gasPrice : Int) * tickerPrice s (t.str "d.Symbol")) = .ok (.ok v) ∧
        burn = [.burnTicker v] ∧ tags = [("tx.burned_for_symbol", toString v)]) := by
  unfold tickerBurn at h
  split at h
  · next hty =>
    simp only at h
    split at h
    · cases h; exact .inl ⟨rfl, rfl⟩
    · split at h
      · cases h
      · cases h; exact .inl ⟨rfl, rfl⟩
      · next v hv =>
        split at h <;> cases h
        · exact .inl ⟨rfl, rfl⟩
        · exact .inr ⟨by simpa using hty, v, by omega, hv, rfl, rfl⟩
  · cases h; exact .inl ⟨rfl, rfl⟩

theorem tickerBurn_other (s : State) (t : TxIn) (h5 : t.typ ≠ 5) (h30 : t.typ ≠ 30) : tickerBurn s t = .ok ([], []) := by
  unfold tickerBurn
  have h1 : (t.typ == 5) = false := by simpa using h5
  have h2 : (t.typ == 30) = false := by simpa using h30
  simp [h1, h2]
  rfl

theorem successOutcome_ok (s : State) (t : TxIn) (r out : Outcome) (h : successOutcome s t r = .ok out) :
    ∃ burn btags, tickerBurn s t = .ok (burn, btags) ∧ out.code = 0 ∧ out.moves = successMoves t r burn ∧ out.tags = r.tags ++ btags ∧
      r.moves.any Move.isSetNonce = false ∧ burn.any Move.isSetNonce = false ∧
      (successMoves t r burn).all (Move.debitOk t.sender t.issuer) = true ∧ freshIdsOk s (successMoves t r burn) = true := by
  unfold successOutcome at h
  split at h
  · cases h
  next burn btags hb =>
  simp only [guard_throw_iff, Bool.not_eq_true, Bool.not_eq_false'] at h
  obtain ⟨hbn, hd, hn, hfr, h⟩ := h
  cases h
  exact ⟨burn, btags, hb, rfl, rfl, rfl, hn, hbn, by simpa using hd, by simpa using hfr⟩

theorem failureOutcome_ok (P : Params) (o : Oracle) (s : State) (t : TxIn) (code : Nat) (out : Outcome)
    (h : failureOutcome P o s t code = .ok out) :
    out.code ≠ 0 ∧ out.moves.all Move.isFee = true ∧ out.moves.all (Move.debitOk t.sender t.issuer) = true := by
  unfold failureOutcome at h
  split at h
  · simp only [guard_throw_iff, beq_iff_eq, Bool.not_eq_true, Bool.not_eq_false'] at h
    obtain ⟨hc, hf, hd, h⟩ := h
    cases h
    exact ⟨hc, by simpa using hf, by simpa using hd⟩
  · cases h

theorem deliverBody_shape (P : Params) (o : Oracle) (s : State) (b : Nat) (t : TxIn) (out : Outcome)
    (h : deliverBody P o s b t = .ok out) :
    (out.code ≠ 0 ∧ out.moves.all Move.isFee = true ∧ out.moves.all (Move.debitOk t.sender t.issuer) = true) ∨
    ∃ price rd r, basePrice s t = .ok (.ok price) ∧ runData P o s b t price = .ok (.ok rd) ∧
      execReady s rd = .ok r ∧ successOutcome s t r = .ok out := by
  unfold deliverBody at h
  split at h
  · cases h
  · next c hb => cases h; exact .inl ⟨basePrice_code_ne_zero s t c hb, rfl, rfl⟩
  next price hb =>
  split at h
  · cases h
  · split at h
    · cases h
    · exact .inl (failureOutcome_ok P o s t _ out h)
  next rd hr =>
  split at h
  · cases h
  · next r hx => exact .inr ⟨price, rd, r, hb, hr, hx, h⟩

theorem deliver_accepted (P : Params) (o : Oracle) (s : State) (b : Nat) (t : TxIn) (out : Outcome)
    (h : deliverTx P o s b t = .ok out) (h0 : out.code = 0) :
    prologue P s b t = none ∧
    ∃ price rd r, basePrice s t = .ok (.ok price) ∧ runData P o s b t price = .ok (.ok rd) ∧
      execReady s rd = .ok r ∧ successOutcome s t r = .ok out := by
  unfold deliverTx at h
  split at h
  · next c hp => cases h; exact absurd (h0 ▸ hp) (prologue_ne_zero P s b t)
  · next hp =>
    rcases deliverBody_shape P o s b t out h with hr | hs
    · exact absurd h0 hr.1
    · exact ⟨hp, hs⟩

theorem deliver_exec (P : Params) (o : Oracle) (s : State) (b : Nat) (t : TxIn) (out : Outcome)
    (h : deliverTx P o s b t = .ok out) (h0 : out.code = 0) :
    ∃ price rd paid body tags, runData P o s b t price = .ok (.ok rd) ∧
      payCommission s rd.payer rd.coin rd.com rd.minOut = .ok paid ∧ rd.exec paid.adj = .ok (body, tags) ∧
      (∀ m ∈ body, m ∈ out.moves) ∧ (∀ x ∈ tags, x ∈ out.tags) := by
  obtain ⟨_, price, rd, r, _, hr, hx, hs⟩ := deliver_accepted P o s b t out h h0
  obtain ⟨paid, body, tags, hpay, he, _, hmoves, htags⟩ := execReady_ok s rd r hx
  obtain ⟨burn, btags, -, -, hm, htg, -⟩ := successOutcome_ok s t r out hs
  refine ⟨price, rd, paid, body, tags, hr, hpay, he, fun m hm' => ?_, fun x hx' => ?_⟩
  · rw [hm, successMoves, hmoves]; simp [hm']
  · rw [htg, htags]; simp [hx']

theorem deliver_accepted_moves (P : Params) (o : Oracle) (s : State) (b : Nat) (t : TxIn) (out : Outcome)
    (h : deliverTx P o s b t = .ok out) (h0 : out.code = 0) (h5 : t.typ ≠ 5) (h30 : t.typ ≠ 30) :
    ∃ price rd paid body tags, basePrice s t = .ok (.ok price) ∧ runData P o s b t price = .ok (.ok rd) ∧
      payCommission s rd.payer rd.coin rd.com rd.minOut = .ok paid ∧ rd.exec paid.adj = .ok (body, tags) ∧
      out.moves = paid.moves ++ body ++ [.admin (.setNonce t.sender t.nonce)] := by
  obtain ⟨-, price, rd, r, hb, hr, hx, hs⟩ := deliver_accepted P o s b t out h h0
  obtain ⟨paid, body, tags, hpay, he, -, hmoves, -⟩ := execReady_ok s rd r hx
  obtain ⟨burn, btags, hbn, -, hm, -⟩ := successOutcome_ok s t r out hs
  cases (tickerBurn_other s t h5 h30).symm.trans hbn
  exact ⟨price, rd, paid, body, tags, hb, hr, hpay, he, by rw [hm, successMoves, hmoves, List.append_nil]⟩

/-! ### Paying: pool swaps and the commission -/

/-- `mv` names the pool by its stored orientation; its flag `sellsC0` says which way the sale goes. -/
theorem pairSellMove_shape (s : State) (adj : Option PoolAdj) (payer : Addr) (a b : Coin) (amountIn minOut : Int) (toRewards : Bool) (dest : Addr)
    (mv : Move) (out : Int) (j : PoolAdj) (h : pairSellMove s adj payer a b amountIn minOut toRewards dest = .ok (mv, out, j)) :
    0 < amountIn ∧ 0 < out ∧ minOut ≤ out ∧ 0 < amountIn - com1000 amountIn ∧
    (((getPool s a b).isSome = true ∧ mv = .poolSell payer a b true (amountIn - com1000 amountIn) out (com1000 amountIn) toRewards dest) ∨
     ((getPool s a b).isSome = false ∧ mv = .poolSell payer b a false (amountIn - com1000 amountIn) out (com1000 amountIn) toRewards dest)) ∧
    j = ⟨a, b, amountIn - com1000 amountIn, -out⟩ ∧ pairHasOrders s a b = false ∧
    ∃ r0 r1, poolResAdj s adj a b = some (r0, r1) ∧ bfsNoOrders r0 r1 (amountIn - com1000 amountIn) = .val out := by
  unfold pairSellMove at h
  split at h
  · cases h
  next r0 r1 hres =>
  simp only [guard_throw_iff, Bool.not_eq_true, Int.not_le] at h
  obtain ⟨hord, hin, hnet, h⟩ := h
  split at h
  · cases h
  · cases h
  next o' hq =>
  simp only [guard_throw_iff, Int.not_le, Int.not_lt] at h
  obtain ⟨hout, hmin, h⟩ := h
  split at h
  · next hs => cases h; exact ⟨hin, hout, hmin, hnet, .inl ⟨hs, rfl⟩, rfl, hord, r0, r1, hres, hq⟩
  · next hs => cases h; exact ⟨hin, hout, hmin, hnet, .inr ⟨by simpa using hs, rfl⟩, rfl, hord, r0, r1, hres, hq⟩

/-- A pool purchase: the buyer receives `amountOut` and pays `gross` = pool input `net` + the 0.1 % burn. -/
theorem pairBuyMove_shape (P : Params) (s : State) (adj : Option PoolAdj) (payer : Addr) (a b : Coin) (amountOut : Int) (dest : Addr)
    (mv : Move) (gross : Int) (j : PoolAdj) (h : pairBuyMove P s adj payer a b amountOut dest = .ok (mv, gross, j)) :
    ∃ net burn, 0 < amountOut ∧ 0 < net ∧ net + burn = gross ∧ burn = com1000 gross ∧ gross = net + com0999 net ∧
    (((getPool s a b).isSome = true ∧ mv = .poolSell payer a b true net amountOut burn false dest) ∨
     ((getPool s a b).isSome = false ∧ mv = .poolSell payer b a false net amountOut burn false dest)) ∧
    ∃ r0 r1, poolResAdj s adj a b = some (r0, r1) ∧ sfbNoOrders r0 r1 amountOut = .val net := by
  unfold pairBuyMove at h
  split at h
  · cases h
  next r0 r1 hres =>
  simp only [guard_throw_iff, Int.not_le] at h
  obtain ⟨-, hout, h⟩ := h
  split at h
  · cases h
  · cases h
  next net hq =>
  simp only [guard_throw_iff, Int.not_le, Int.not_lt, ne_eq, Decidable.not_not] at h
  obtain ⟨hnet, -, hb, h⟩ := h
  split at h
  · next hs => cases h; exact ⟨net, _, hout, hnet, hb, rfl, rfl, .inl ⟨hs, rfl⟩, r0, r1, hres, hq⟩
  · next hs => cases h; exact ⟨net, _, hout, hnet, hb, rfl, rfl, .inr ⟨by simpa using hs, rfl⟩, r0, r1, hres, hq⟩

theorem payCommission_shape (s : State) (payer : Addr) (gas : Coin) (c : Com) (minOut : Int) (paid : Paid)
    (h : payCommission s payer gas c minOut = .ok paid) :
    paid.amount = c.commission ∧
    ((c.fromPool = true ∧ ∃ mv out adj, pairSellMove s none payer gas 0 c.commission minOut true 0 = .ok (mv, out, adj) ∧
        paid.moves = [mv] ∧ paid.inBase = out ∧ paid.adj = some adj) ∨
     (c.fromPool = false ∧ gas ≠ 0 ∧ paid.moves = [.feeBancor payer gas c.commission c.inBase] ∧ paid.inBase = c.inBase ∧ paid.adj = none) ∨
     (c.fromPool = false ∧ gas = 0 ∧ c.commission = c.inBase ∧ paid.moves = [.feeBase payer c.commission] ∧ paid.inBase = c.inBase ∧ paid.adj = none)) := by
  unfold payCommission at h
  split at h
  · next hf =>
    split at h
    · cases h
    · next mv out adj hm => cases h; exact ⟨rfl, Or.inl ⟨hf, mv, out, adj, hm, rfl, rfl, rfl⟩⟩
  · next hf =>
    have hf' : c.fromPool = false := by simpa using hf
    split at h
    · next hg => cases h; exact ⟨rfl, Or.inr (Or.inl ⟨hf', by simpa using hg, rfl, rfl, rfl⟩)⟩
    · next hg =>
      have hg' : gas = 0 := by simpa using hg
      split at h
      · cases h
      · next hc => cases h; exact ⟨rfl, Or.inr (Or.inr ⟨hf', hg', by simpa using hc, rfl, rfl, rfl⟩)⟩

theorem getCoin_of_exists (s : State) (c : Coin) (h : coinExists s c = true) (hc : c ≠ 0) : ∃ ci, getCoin s c = some ci := by
  unfold coinExists at h
  simp only [Bool.or_eq_true, beq_iff_eq] at h
  rcases h with h | h
  · exact absurd h hc
  · exact findFirst_isSome_of_any _ _ h

/-! ### Pools -/

/-- Positive reserves are part of `AmountsOk` (Props/C02.lean); the sorted orientation, in which `CreateSwapPool` stores a
    pool, is `PoolsSorted`: `poolsOk_of`, `TxInv.poolsOk`. -/
def PoolsOk (s : State) : Prop := ∀ p ∈ s.pools, p.c0 < p.c1 ∧ 0 < p.r0 ∧ 0 < p.r1

theorem getPool_mem (s : State) (a b : Coin) (p : Pool) (h : getPool s a b = some p) : p ∈ s.pools ∧ p.c0 = a ∧ p.c1 = b := by
  unfold getPool at h
  obtain ⟨hm, hp⟩ := findFirst_mem _ _ _ h
  simp only [Bool.and_eq_true, beq_iff_eq] at hp
  exact ⟨hm, hp.1, hp.2⟩

/-- Which stored entry answers `poolRes s a b`: the one stored as `(a, b)`, else the one stored as `(b, a)` read backwards. -/
theorem poolRes_cases {s : State} {a b : Coin} {x y : Int} (h : poolRes s a b = some (x, y)) :
    (∃ p, getPool s a b = some p ∧ x = p.r0 ∧ y = p.r1) ∨
    (getPool s a b = none ∧ ∃ p, getPool s b a = some p ∧ x = p.r1 ∧ y = p.r0) := by
  unfold poolRes at h
  cases h1 : getPool s a b with
  | some p => rw [h1] at h; cases h; exact .inl ⟨p, rfl, rfl, rfl⟩
  | none =>
    rw [h1] at h
    cases h2 : getPool s b a with
    | some q => rw [h2] at h; cases h; exact .inr ⟨rfl, q, rfl, rfl, rfl⟩
    | none => rw [h2] at h; cases h

theorem poolRes_pos (s : State) (hok : PoolsOk s) (a b : Coin) (x y : Int) (h : poolRes s a b = some (x, y)) : 0 < x ∧ 0 < y := by
  rcases poolRes_cases h with ⟨p, hp, rfl, rfl⟩ | ⟨-, p, hp, rfl, rfl⟩
  · exact (hok p (getPool_mem s a b p hp).1).2
  · exact (hok p (getPool_mem s b a p hp).1).2.symm

theorem poolRes_flip (s : State) (hok : PoolsOk s) (a b : Coin) (x y : Int) (h : poolRes s a b = some (x, y)) :
    poolRes s b a = some (y, x) := by
  unfold poolRes
  rcases poolRes_cases h with ⟨p, hp, rfl, rfl⟩ | ⟨hn, p, hp, rfl, rfl⟩
  · cases h2 : getPool s b a with
    | some q =>
      have hp' := getPool_mem s a b p hp
      have hq := getPool_mem s b a q h2
      have := (hok p hp'.1).1
      have := (hok q hq.1).1
      -- stored in both orientations: `p.c0 < p.c1` and `q.c0 < q.c1` with the ends swapped
      omega
    | none => rw [hp]
  · rw [hp]

theorem poolRes_ne (s : State) (hok : PoolsOk s) (a b : Coin) (r : Int × Int) (h : poolRes s a b = some r) : a ≠ b := by
  rintro rfl
  obtain ⟨x, y⟩ := r
  -- either way an entry is stored as `(a, a)`, against `p.c0 < p.c1`
  rcases poolRes_cases h with ⟨p, hp, -⟩ | ⟨-, p, hp, -⟩ <;>
    · have hp' := getPool_mem s a a p hp
      have := (hok p hp'.1).1
      omega

theorem poolResAdj_none (s : State) (x y : Coin) : poolResAdj s none x y = poolRes s x y := by
  unfold poolResAdj
  cases poolRes s x y <;> rfl

/-- `poolResAdj` after an adjustment, as one equation over the plain reserves. -/
theorem poolResAdj_some {s : State} {x y : Coin} {rx ry : Int} (h : poolRes s x y = some (rx, ry)) (j : PoolAdj) :
    poolResAdj s (some j) x y = some (if j.a = x ∧ j.b = y then (rx + j.da, ry + j.db)
      else if j.a = y ∧ j.b = x then (rx + j.db, ry + j.da) else (rx, ry)) := by
  unfold poolResAdj
  rw [h]
  simp only [Bool.and_eq_true, beq_iff_eq]
  split
  · rfl
  · split <;> rfl

/-! ### Exact balance accounting of a plan -/

/-- The same function as `Prim.balDelta` (Ledger.lean): `apply_balance'` below is `apply_balance`. -/
def Prim.balDelta' (x : Addr) (c : Coin) : Prim → Int
  | .addBal a c' v => if a = x ∧ c' = c then v else 0
  | _ => 0

def sumBal (x : Addr) (c : Coin) (ps : List Prim) : Int := sumBy (Prim.balDelta' x c) ps

theorem apply_balance' (s : State) (p : Prim) (x : Addr) (c : Coin) :
    balanceOf (p.apply s) x c = balanceOf s x c + p.balDelta' x c :=
  apply_balance s p x c

theorem checked_balance_eq (s s' : State) (ps : List Prim) (x : Addr) (c : Coin)
    (h : applyChecked s ps = some s') : balanceOf s' x c = balanceOf s x c + sumBal x c ps :=
  checked_sum (balanceOf · x c) (Prim.balDelta' x c) (fun s p _ => apply_balance' s p x c) s s' ps h

theorem sumBal_append (x : Addr) (c : Coin) (p q : List Prim) : sumBal x c (p ++ q) = sumBal x c p + sumBal x c q := by
  simp only [sumBal, sumBy_append]

end Minter
