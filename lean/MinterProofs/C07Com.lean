import MinterModel.TxInv
import MinterProofs.C07Kernels
import MinterProofs.Props.C02
/-
  The notion the C07 proofs of the transaction layer are stated in: `Good Q m` = "the validation step `m` does not stop at a panic site
  and an accepted result satisfies `Q`". It has one rule per construct (`Good_ite`, `Good_ok`, `Good_error`, `Good_throw`, `Good_sub`),
  so a handler is walked along its `if`s by rewriting. Proved in that form here, under the state invariant `TxInv`: the price of a
  transaction, `CalculateCommission` (`ComGood`), and from `ComGood` that the deliver-side payment succeeds (`payCommission_total`).
-/
namespace Minter

/-- `txInvB` of MinterModel/TxInv.lean as a structure of propositions (`txInv_iff`). -/
structure TxInv (P : Params) (s : State) : Prop where
  /-- C02: no negative amount, volume ≤ max supply, pool reserves positive -/
  amounts : amountsOk s = true
  /-- the cap holds in the node because a reserve is part of a coin's volume -/
  pools : ∀ p ∈ s.pools, p.c0 < p.c1 ∧ p.r0 ≤ P.maxSupply ∧ p.r1 ≤ P.maxSupply
  prices : priceTableOk s = true
  /-- a price table denominated in a custom coin has its pool with the base coin (checked by VoteCommission) -/
  priceCoinPool : priceCoin s = 0 ∨ poolExists s (priceCoin s) 0 = true
  lp : lpOk s = true

theorem txInv_iff (P : Params) (s : State) : TxInv P s ↔ txInvB P s = true := by
  simp only [txInvB, poolsShapeOk, priceCoinOk, Bool.and_eq_true, Bool.or_eq_true, beq_iff_eq, List.all_eq_true, decide_eq_true_eq]
  constructor
  · intro h
    exact ⟨⟨⟨⟨h.amounts, fun p hp => ⟨⟨(h.pools p hp).1, (h.pools p hp).2.1⟩, (h.pools p hp).2.2⟩⟩, h.prices⟩, h.priceCoinPool⟩, h.lp⟩
  · rintro ⟨⟨⟨⟨h1, h2⟩, h3⟩, h4⟩, h5⟩
    exact ⟨h1, fun p hp => ⟨(h2 p hp).1.1, (h2 p hp).1.2, (h2 p hp).2⟩, h3, h4, h5⟩

theorem TxInv.amountsOk {P : Params} {s : State} (h : TxInv P s) : AmountsOk s := amountsOk_sound s h.amounts

theorem TxInv.poolsOk {P : Params} {s : State} (h : TxInv P s) : PoolsOk s := by
  intro p hp
  have := h.amountsOk.pools p hp
  exact ⟨(h.pools p hp).1, this.1, this.2⟩

theorem poolRes_cap {P : Params} {s : State} (h : TxInv P s) (a b : Coin) (x y : Int) (hr : poolRes s a b = some (x, y)) :
    x ≤ P.maxSupply ∧ y ≤ P.maxSupply := by
  rcases poolRes_cases hr with ⟨p, hp, rfl, rfl⟩ | ⟨-, p, hp, rfl, rfl⟩
  · exact (h.pools p (getPool_mem s a b p hp).1).2
  · exact (h.pools p (getPool_mem s b a p hp).1).2.symm

theorem lookup_getD_nonneg (l : List (String × Int)) (h : l.all (fun e => decide (0 ≤ e.2)) = true) (k : String) :
    0 ≤ (l.lookup k).getD 0 := by
  induction l with
  | nil => simp [List.lookup]
  | cons e t ih =>
    obtain ⟨k', v⟩ := e
    simp only [List.all_cons, Bool.and_eq_true, decide_eq_true_eq] at h
    simp only [List.lookup]
    split
    · simpa using h.1
    · exact ih h.2

structure PricesOk (s : State) : Prop where
  nonneg : ∀ k, 0 ≤ priceOf s k

theorem priceTableOk_sound (s : State) (h : priceTableOk s = true) : PricesOk s :=
  ⟨fun k => lookup_getD_nonneg _ h k⟩

theorem of_not_not_b {b : Bool} (h : ¬ (!b) = true) : b = true := by simpa using h

/-- `Stop.panic` marks the sites where the Go code panics. The other two faults are limits of the model and are allowed: `need` (the
    oracle has no answer to a `formula.Calculate*` question) and `unmodelled` (orders on the pool concerned, a transaction type outside the 37). -/
def NoPanic {α : Type} (m : M α) : Prop := ∀ w, m ≠ .error (.panic w)

theorem NoPanic_pure {α : Type} (x : α) : NoPanic (pure x : M α) := by intro w h; cases h
theorem NoPanic_of_ok {α : Type} {m : M α} {x : α} (h : m = .ok x) : NoPanic m := by rw [h]; exact NoPanic_pure x
theorem NoPanic_need {α : Type} (q : OQ) : NoPanic (throw (.need q) : M α) := by intro w h; cases h
theorem NoPanic_unmodelled {α : Type} (why : String) : NoPanic (throw (.unmodelled why) : M α) := by intro w h; cases h

theorem NoPanic_throw_of {α β : Type} {m : M β} {e : Stop} (hm : NoPanic m) (he : m = .error e) : NoPanic (throw e : M α) := by
  intro w h; cases h; exact hm w he

theorem NoPanic_ite {α : Type} (c : Prop) [Decidable c] (a b : M α) (ha : c → NoPanic a) (hb : ¬ c → NoPanic b) :
    NoPanic (if c then a else b) := by
  by_cases h : c
  · rw [if_pos h]; exact ha h
  · rw [if_neg h]; exact hb h

theorem ask_noPanic (o : Oracle) (q : OQ) : NoPanic (ask o q) := by
  unfold ask
  split
  · exact NoPanic_pure _
  · exact NoPanic_need _

theorem ask_error (o : Oracle) (q : OQ) (e : Stop) (h : ask o q = .error e) : ∀ w, e ≠ .panic w := by
  intro w hw
  subst hw
  exact ask_noPanic o q w h

def Good {α : Type} (Q : α → Prop) (m : M (Except Nat α)) : Prop := NoPanic m ∧ ∀ x, m = .ok (.ok x) → Q x

theorem Good_error {α : Type} {Q : α → Prop} {c : Nat} : Good Q (pure (.error c) : M (Except Nat α)) :=
  ⟨NoPanic_pure _, fun x h => by cases h⟩

theorem Good_ok {α : Type} {Q : α → Prop} {x : α} : Good Q (pure (.ok x) : M (Except Nat α)) ↔ Q x :=
  ⟨fun h => h.2 x rfl, fun h => ⟨NoPanic_pure _, fun x' h' => by cases h'; exact h⟩⟩

theorem Good_throw {α : Type} {Q : α → Prop} {e : Stop} (he : ∀ w, e ≠ .panic w) : Good Q (throw e : M (Except Nat α)) :=
  ⟨fun w h => by cases h; exact he w rfl, fun x h => by cases h⟩

/-- For the branch `| .error e => throw e` of a `match` on a sub-computation `m`. -/
theorem Good_sub {α β : Type} {Q : α → Prop} {m : M β} {e : Stop} (hm : NoPanic m) (he : m = .error e) :
    Good Q (throw e : M (Except Nat α)) :=
  ⟨NoPanic_throw_of hm he, fun x h => by cases h⟩

theorem Good_ite {α : Type} {Q : α → Prop} {c : Prop} [Decidable c] {a b : M (Except Nat α)} :
    Good Q (if c then a else b) ↔ (c → Good Q a) ∧ (¬c → Good Q b) := by
  split <;> simp [*]

theorem toBase_noPanic {P : Params} {s : State} (hinv : TxInv P s) (amount : Int) (ha : 0 ≤ amount) :
    NoPanic (toBase s amount) := by
  unfold toBase
  split
  · exact NoPanic_pure _
  · rename_i hpc
    split
    · rename_i hnone
      rcases hinv.priceCoinPool with h | h
      · rw [h] at hpc; simp at hpc
      · unfold poolExists at h; rw [hnone] at h; simp at h
    · rename_i r0 r1 hres
      split
      · exact NoPanic_unmodelled _
      · have hpos := poolRes_pos s hinv.poolsOk _ _ r0 r1 hres
        obtain ⟨r, hr⟩ := checkSwapQuote_total r0 r1 amount 0 false hpos.1 hpos.2 (by simpa using ha)
        exact NoPanic_of_ok hr

theorem basePrice_noPanic {P : Params} {s : State} (hinv : TxInv P s) (t : TxIn) : NoPanic (basePrice s t) := by
  unfold basePrice
  simp only
  split
  · exact NoPanic_pure _
  rename_i hneg
  split
  · exact NoPanic_pure _
  · split
    · rename_i e he
      intro w hw
      cases hw
      exact toBase_noPanic hinv _ (by omega) w he
    · exact NoPanic_pure _
    · split <;> exact NoPanic_pure _

structure ComGood (s : State) (gas : Coin) (inBase : Int) (com : Com) : Prop where
  inBase_eq : com.inBase = inBase
  base : gas = 0 → com.commission = com.inBase ∧ com.fromPool = false
  pool : com.fromPool = true → gas ≠ 0 ∧ 0 < inBase ∧ 0 < com.commission ∧ pairHasOrders s gas 0 = false ∧
    ∃ r0 r1, poolRes s gas 0 = some (r0, r1) ∧ quoteSellForBuy r0 r1 inBase = .val com.commission

theorem ComGood.comPos {s : State} {gas : Coin} {price : Int} {com : Com} (h : ComGood s gas price com) :
    com.fromPool = true → 0 < com.commission := fun hf => (h.pool hf).2.2.1

theorem comFromPool_spec {P : Params} {s : State} (hinv : TxInv P s) (gas : Coin) (inBase : Int) (hb : 0 ≤ inBase) :
    Good (fun x => 0 < x ∧ pairHasOrders s gas 0 = false ∧
      ∃ r0 r1, poolRes s gas 0 = some (r0, r1) ∧ quoteSellForBuy r0 r1 inBase = .val x) (comFromPool P s gas inBase) := by
  unfold comFromPool
  split
  · exact Good_error
  next r0 r1 hres =>
  have hpos := poolRes_pos s hinv.poolsOk _ _ r0 r1 hres
  refine Good_ite.mpr ⟨fun _ => Good_throw (fun w h => by cases h), fun hord => ?_⟩
  obtain ⟨r, hr⟩ := checkSwapQuote_total r0 r1 P.maxSupply inBase true hpos.1 hpos.2 (by simpa using hb)
  rw [hr]
  cases r with
  | error c => exact Good_error
  | ok x =>
    simp only [Good_ite, Good_ok]
    exact ⟨fun _ => Good_error, fun hx =>
      ⟨by omega, by simpa using hord, r0, r1, hres, (checkSwapQuote_buy_ok _ _ _ _ _ hr).1⟩⟩

theorem comFromReserve_noPanic (P : Params) (o : Oracle) (s : State) (gas : Coin) (inBase : Int) :
    NoPanic (comFromReserve P o s gas inBase) := by
  unfold comFromReserve
  split
  · exact NoPanic_pure _
  · split
    · exact NoPanic_pure _
    · split
      · exact NoPanic_pure _
      · split
        · rename_i e he
          intro w hw; cases hw
          exact ask_noPanic _ _ w he
        · exact NoPanic_pure _

theorem calcCommission_spec {P : Params} {s : State} (hinv : TxInv P s) (o : Oracle) (gas : Coin) (inBase : Int) (hb : 0 ≤ inBase) :
    Good (ComGood s gas inBase) (calcCommission P o s gas inBase) := by
  unfold calcCommission
  simp only [Good_ite, Good_ok, beq_iff_eq]
  refine ⟨fun hg => ⟨rfl, fun _ => ⟨rfl, rfl⟩, fun h => by cases h⟩, fun hg => ⟨fun _ => ⟨rfl, fun h => absurd h hg, fun h => by cases h⟩, fun hz => ?_⟩⟩
  obtain ⟨hnp, hsp⟩ := comFromPool_spec (P := P) hinv gas inBase hb
  have poolCase : ∀ p, comFromPool P s gas inBase = .ok (.ok p) → ComGood s gas inBase ⟨p, inBase, true⟩ := fun p hp =>
    ⟨rfl, fun h => absurd h hg, fun _ => ⟨hg, by omega, hsp p hp⟩⟩
  have resCase : ∀ r, ComGood s gas inBase ⟨r, inBase, false⟩ := fun r => ⟨rfl, fun h => absurd h hg, fun h => by cases h⟩
  split
  · exact Good_sub hnp ‹_›
  next fp hfp =>
  split
  · exact Good_sub (comFromReserve_noPanic P o s gas inBase) ‹_›
  next fr hfr =>
  split
  · exact Good_error
  · simp only [Good_ite, Good_ok]
    exact ⟨fun _ => resCase _, fun _ => poolCase _ hfp⟩
  · exact Good_ok.mpr (poolCase _ hfp)
  · exact Good_ok.mpr (resCase _)

theorem pairSellMove_ok (s : State) (adj : Option PoolAdj) (payer : Addr) (a b : Coin) (amountIn minOut : Int) (toRewards : Bool) (dest : Addr)
    (r0 r1 out : Int) (hres : poolResAdj s adj a b = some (r0, r1)) (hord : pairHasOrders s a b = false)
    (hin : 0 < amountIn) (hnet : 0 < amountIn - com1000 amountIn)
    (hq : bfsNoOrders r0 r1 (amountIn - com1000 amountIn) = .val out) (hout : 0 < out) (hmin : minOut ≤ out) :
    ∃ mv, pairSellMove s adj payer a b amountIn minOut toRewards dest = .ok (mv, out, ⟨a, b, amountIn - com1000 amountIn, -out⟩) := by
  unfold pairSellMove
  rw [hres]
  simp only [hord, Bool.false_eq_true, if_false]
  have h1 : ¬ (amountIn ≤ 0) := by omega
  have h2 : ¬ (amountIn - com1000 amountIn ≤ 0) := by omega
  simp only [h1, h2, if_false, hq]
  have h3 : ¬ (out ≤ 0) := by omega
  have h4 : ¬ (out < minOut) := by omega
  simp only [h3, h4, if_false]
  split <;> exact ⟨_, rfl⟩

/-- A commission not taken through the pool is a single fee move; in the base coin the model insists that it equals its base value. -/
theorem payCommission_direct (s : State) (payer : Addr) (gas : Coin) (com : Com) (minOut : Int) (hf : com.fromPool = false)
    (hb : gas = 0 → com.commission = com.inBase) : ∃ paid, payCommission s payer gas com minOut = .ok paid := by
  unfold payCommission
  simp only [hf, Bool.false_eq_true, if_false]
  split
  · exact ⟨_, rfl⟩
  · rename_i hg
    rw [if_neg (by simpa using hb (by simpa using hg))]
    exact ⟨_, rfl⟩

/-- C07: the deliver-side commission payment of a validated transaction always succeeds. Through the pool, the commission is what
    `CalculateSellForBuyWithOrders` quoted for the base-coin price, so by `quote_round_trip` the sale yields at least `inBase ≥ minOut`. -/
theorem payCommission_total {P : Params} {s : State} (hinv : TxInv P s) (payer : Addr) (gas : Coin) (inBase : Int) (com : Com) (minOut : Int)
    (hc : ComGood s gas inBase com) (hmin : minOut ≤ inBase) : ∃ paid, payCommission s payer gas com minOut = .ok paid := by
  by_cases hf : com.fromPool = true
  · obtain ⟨_, hpos, hcpos, hord, r0, r1, hres, hq⟩ := hc.pool hf
    have hrp := poolRes_pos s hinv.poolsOk _ _ r0 r1 hres
    obtain ⟨_, _, hnet, o, hbfs, hle⟩ := quote_round_trip r0 r1 inBase com.commission hrp.1 hrp.2 (by omega) hq hcpos
    obtain ⟨mv, hm⟩ := pairSellMove_ok s none payer gas 0 com.commission minOut true 0 r0 r1 o
      (by rw [poolResAdj_none]; exact hres) hord hcpos hnet hbfs (by omega) (by omega)
    unfold payCommission
    rw [if_pos hf, hm]
    exact ⟨_, rfl⟩
  · exact payCommission_direct s payer gas com minOut (by simpa using hf) fun hg => (hc.base hg).1

end Minter
