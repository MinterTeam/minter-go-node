import MinterProofs.AmountsCore
/-
  C02, per value move: the condition under which the primitives of a move, applied one after the other to a state that satisfies
  `AmountsOk`, lead to one that does.  Each proof is the walk through the move's primitives.
-/
namespace Minter

theorem planOf_single (m : Move) : planOf [m] = m.prims := by simp [planOf]
theorem planOf_cons (m : Move) (t : List Move) : planOf (m :: t) = m.prims ++ planOf t := by simp [planOf]

theorem prims_admin {p : Prim} (hp : p.isAdmin = true) : (Move.admin p).prims = [p] := if_pos hp

theorem applyAll_append (s : State) (p q : List Prim) : applyAll s (p ++ q) = applyAll (applyAll s p) q := List.foldl_append

theorem planSafe_nil (s : State) : PlanSafe s [] := trivial

/-- `v` of coin `c` from `a` to `b`. -/
theorem transfer_safe (s : State) (hok : AmountsOk s) (a b : Addr) (c : Coin) (v : Int) (hv : 0 ≤ v) (hb : v ≤ balanceOf s a c) :
    AmountsOk (applyAll s (Move.transfer a b c v).prims) :=
  (hok.debit hb).credit b c hv

/-- Mint (or, with a negative amount, burn) of a token. -/
theorem mint_safe (s : State) (hok : AmountsOk s) (a : Addr) (c : Coin) (v : Int) (ci : CoinInfo) (hci : getCoin s c = some ci)
    (h0 : 0 ≤ ci.volume + v) (h1 : ci.volume + v ≤ ci.maxSupply) (hb : 0 ≤ balanceOf s a c + v) :
    AmountsOk (applyAll s (Move.mint a c v).prims) := by
  simp only [Move.prims]
  split
  · exact hok
  · exact (hok.addVolume fun _ e => by cases hci.symm.trans e; exact ⟨h0, h1⟩).addBal hb

/-- A new coin / token: the reserve is locked from the creator's base-coin balance. -/
theorem createCoin_safe (s : State) (hok : AmountsOk s) (owner : Addr) (ci : CoinInfo) (hr : ci.reserve ≤ balanceOf s owner 0)
    (h0 : 0 ≤ ci.volume) (h1 : 0 ≤ ci.reserve) (h2 : ci.volume ≤ ci.maxSupply) :
    AmountsOk (applyAll s (Move.createCoin owner ci).prims) := by
  simp only [Move.prims]
  split
  · exact hok
  · exact ((hok.debit hr).prim (p := .createCoin ci) ⟨h0, h1, h2⟩ nofun).credit _ _ h0

theorem lock_safe (s : State) (hok : AmountsOk s) (a : Addr) (f : Frozen) (hv : 0 ≤ f.value) (hb : f.value ≤ balanceOf s a f.coin) :
    AmountsOk (applyAll s (Move.lock a f).prims) :=
  (hok.debit hb).prim (p := .addFrozen _) hv nofun

theorem declare_safe (s : State) (hok : AmountsOk s) (a : Addr) (cd : Candidate) (coin : Coin) (stake : Int) (hv : 0 ≤ stake)
    (hb : stake ≤ balanceOf s a coin) : AmountsOk (applyAll s (Move.declare a cd coin stake).prims) :=
  ((hok.debit hb).prim (p := .addCandidate cd) trivial nofun).prim (p := .pushUpdate _ _) hv nofun

theorem delegate_safe (s : State) (hok : AmountsOk s) (a : Addr) (cand : Nat) (coin : Coin) (value : Int) (wl : Option WaitEntry)
    (hb : value ≤ balanceOf s a coin) (ht : 0 ≤ value + (match wl with | some w => w.value | none => 0)) :
    AmountsOk (applyAll s (Move.delegate a cand coin value wl).prims) := by
  cases wl with
  | none => exact (hok.debit hb).prim (p := .pushUpdate _ _) (Int.add_zero value ▸ ht) nofun
  | some w => exact ((hok.debit hb).prim (p := .delWait _) trivial nofun).prim (p := .pushUpdate _ _) ht nofun

theorem orderAdd_safe (s : State) (hok : AmountsOk s) (a : Addr) (o : Order) (h0 : 0 ≤ o.v0) (h1 : 0 ≤ o.v1)
    (hb : o.escrowValue ≤ balanceOf s a o.escrowCoin) : AmountsOk (applyAll s (Move.orderAdd a o).prims) :=
  (hok.debit hb).prim (p := .addOrder o) ⟨h0, h1⟩ nofun

theorem orderRemove_safe (s : State) (hok : AmountsOk s) (a : Addr) (o : Order) (hv : 0 ≤ o.escrowValue) :
    AmountsOk (applyAll s (Move.orderRemove a o).prims) :=
  (hok.prim (p := .delOrder o) trivial nofun).credit _ _ hv

end Minter
