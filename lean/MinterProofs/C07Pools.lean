import MinterProofs.C07Handlers2
import MinterProofs.Props.C15
/-
  AddLimitOrder, AddLiquidity and RemoveLiquidity validate against the reserves `simRes` gives: those of their pool after the simulated
  commission swap, when the commission goes through that very pool. `sim_eq_real` (Props/C15.lean) says these are the real reserves
  after `payCommission`, so `PairMint` / `PairBurn` of the deliver half pass on the checks the validation made.
-/
namespace Minter

theorem simRes_noPanic {P : Params} {s : State} (hinv : TxInv P s) (gas : Coin) (com : Com) (a b : Coin)
    (hex : poolExists s a b = true) (hcom : com.fromPool = true → 0 < com.commission) : NoPanic (simRes s gas com a b) := by
  unfold simRes
  cases hp : poolRes s a b with
  | none => unfold poolExists at hex; rw [hp] at hex; simp at hex
  | some rr =>
    obtain ⟨ra, rb⟩ := rr
    have hpos := poolRes_pos s hinv.poolsOk a b ra rb hp
    simp only
    by_cases hcp : isComPool gas com a b = true
    · have hf : com.fromPool = true := by
        unfold isComPool at hcp
        simp only [Bool.and_eq_true] at hcp
        exact hcp.1
      have hc := hcom hf
      simp only [hcp, Bool.not_true, Bool.false_eq_true, if_false]
      split
      · exact NoPanic_unmodelled _
      · have hrg : 0 < (if (a == gas) = true then ra else rb) := by split <;> omega
        have hr0 : 0 < (if (a == gas) = true then rb else ra) := by split <;> omega
        generalize (if (a == gas) = true then ra else rb) = rg at hrg ⊢
        generalize (if (a == gas) = true then rb else ra) = r0 at hr0 ⊢
        have hq := (C07_quote_no_panic rg r0 com.commission hrg hr0 (by omega)).1
        split
        · rename_i w hw; exact absurd hw (hq w)
        · rename_i hn; exact absurd hn (quoteBFS_ne_nil _ _ _)
        · have hnet := net_nonneg com.commission (by omega)
          split
          · rename_i w hw; exact absurd hw (C07_bfs_no_panic rg r0 _ hrg hr0 hnet w)
          · split <;> exact NoPanic_pure _
    · have hcp' : isComPool gas com a b = false := by simpa using hcp
      simp only [hcp', Bool.not_false, if_true]
      exact NoPanic_pure _

theorem poolId_mem (s : State) (a b : Coin) (h : poolExists s a b = true) : ∃ p ∈ s.pools, poolId s a b = p.id := by
  obtain ⟨⟨x, y⟩, hr⟩ := Option.isSome_iff_exists.mp h
  unfold poolId
  rcases poolRes_cases hr with ⟨p, hp, -, -⟩ | ⟨hn, p, hp, -, -⟩
  · rw [hp]
    exact ⟨p, (getPool_mem s a b p hp).1, rfl⟩
  · rw [hn, hp]
    exact ⟨p, (getPool_mem s b a p hp).1, rfl⟩

theorem lpCoin_of_exists {P : Params} {s : State} (hinv : TxInv P s) (a b : Coin) (h : poolExists s a b = true) :
    ∃ lp, lpCoin s a b = some lp ∧ 0 < lp.volume := by
  obtain ⟨p, hp, hid⟩ := poolId_mem s a b h
  have := hinv.lp
  unfold lpOk at this
  rw [List.all_eq_true] at this
  have hpp := this p hp
  unfold lpCoin
  rw [hid]
  split at hpp
  · rename_i lp hlp
    exact ⟨lp, hlp, by simpa using hpp⟩
  · cases hpp

section
variable {P : Params} {s : State} (hinv : TxInv P s) (o : Oracle) (t : TxIn) (price : Int) (hp : 0 ≤ price) (b : Nat)
include hinv hp

theorem runAddOrder_good : Good (ReadyGood P o s price) (runAddOrder P o s b t price) := by
  simp only [runAddOrder, Good_guard, Good_withCom hinv o hp]
  intro _ _ hex com hc hcg _ _
  split
  · exact Good_sub (simRes_noPanic hinv _ _ _ _ (of_not_not_b hex) hcg.comPos) ‹_›
  · simp only [Good_guard]
    intros; exact Good_ready hc hp

theorem runAddLiquidity_good : Good (ReadyGood P o s price) (runAddLiquidity P o s t price) := by
  simp only [runAddLiquidity, Good_guard, Good_withCom hinv o hp]
  intro _ hex _ _ com hc hcg _
  have hex' := of_not_not_b hex
  -- some paid commission, only to have `0 < r0` from `sim_eq_real`, which is stated for a paid one
  obtain ⟨paid, hpay⟩ := payCommission_total hinv t.sender t.gasCoin price com 0 hcg hp
  cases hsim : simRes s t.gasCoin com (t.nat "d.Coin0") (t.nat "d.Coin1") with
  | error e => exact Good_sub (simRes_noPanic hinv _ _ _ _ hex' hcg.comPos) hsim
  | ok r =>
    obtain ⟨r0, r1⟩ := r
    obtain ⟨_, hr0, _⟩ := sim_eq_real s hinv.poolsOk t.sender t.gasCoin com 0 paid hpay _ _ _ hsim
    obtain ⟨lp, hlp, hlpv⟩ := lpCoin_of_exists hinv _ _ hex'
    have hne : ¬ ((r0 == 0) = true) := by
      simp only [beq_iff_eq]; simp only at hr0; omega
    simp only [hlp, if_neg hne, Good_guard, Good_ok]
    intro _ hliq _ _
    refine ⟨hc, hp, fun paid' hpay' => ?_⟩
    obtain ⟨hreal, _, _⟩ := sim_eq_real s hinv.poolsOk t.sender t.gasCoin com 0 paid' hpay' _ _ _ hsim
    simp only
    rw [addLiquidityExec_eq s _ _ _ _ lp paid'.adj r0 r1 hreal (by simp only at hr0; omega) (by omega)]
    exact NoPanic_pure _

theorem runRemoveLiquidity_good : Good (ReadyGood P o s price) (runRemoveLiquidity P o s t price) := by
  simp only [runRemoveLiquidity, Good_guard, Good_withCom hinv o hp]
  intro _ _ com hc hcg hex
  have hex' := of_not_not_b hex
  cases hsim : simRes s t.gasCoin com (t.nat "d.Coin0") (t.nat "d.Coin1") with
  | error e => exact Good_sub (simRes_noPanic hinv _ _ _ _ hex' hcg.comPos) hsim
  | ok r =>
    obtain ⟨r0, r1⟩ := r
    obtain ⟨lp, hlp, hlpv⟩ := lpCoin_of_exists hinv _ _ hex'
    have hne : ¬ ((lp.volume == 0) = true) := by
      simp only [beq_iff_eq]; omega
    simp only [hlp, if_neg hne, Good_guard, Good_ok]
    intro _ _ hmins
    simp only [Bool.or_eq_true, decide_eq_true_eq, not_or, Int.not_lt] at hmins
    refine ⟨hc, hp, fun paid' hpay' => ?_⟩
    obtain ⟨hreal, _, _⟩ := sim_eq_real s hinv.poolsOk t.sender t.gasCoin com 0 paid' hpay' _ _ _ hsim
    simp only
    rw [removeLiquidityExec_eq s _ _ _ _ _ _ lp paid'.adj r0 r1 hreal hmins.1 hmins.2]
    exact NoPanic_pure _

end

end Minter
