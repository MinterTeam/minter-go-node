import MinterProofs.RlpTyped
import MinterProofs.RlpSamples
/-
  C23 — accepted transactions and checks re-encode to the bytes that were accepted, and the signature value check leaves
  a single-signature transaction no second valid encoding.  Everything follows from `decode_eq_some` (the strict decoder
  inverts the encoder) and the typed readers of RlpTyped.

  Model: `MinterModel/Rlp.lean` (`decode` = `rlp.DecodeBytes` into `interface{}`, `decodeTx`/`acceptsTx` =
  `Executor.DecodeFromBytes`, `accepts checkSchema` = `check.DecodeFromBytes`, `validSig` = value checks of `RecoverPlain`).
  The tie to the Go code is the harness mode `rlp` (every definition below is executed by the driver on the same inputs
  as the real functions).
  Trusted, not modelled: ECDSA ("`Ecrecover(hash, r, s, v)` returns the key that signed `hash`" and "the only other valid
  signature derivable without the key is (v xor 1, r, N − s)" are facts about secp256k1; the harness checks the first on
  every generated transaction: recovered sender = signing key) and Keccak (that the signed hash determines the nine
  signed fields).
  Known boundary F24 (`multisig_signature_list_not_canonical`): for SignatureType = 2 nothing binds the signature *list*.
-/
namespace Minter
namespace Rlp

/-! ## generic RLP -/

theorem encode_decode (b : Bytes) (x : Item) (h : decode b = some x) : encode x = b :=
  (decode_eq_some.mp h).1

theorem decode_inj (b₁ b₂ : Bytes) (x : Item) (h₁ : decode b₁ = some x) (h₂ : decode b₂ = some x) : b₁ = b₂ := by
  rw [← encode_decode b₁ x h₁, ← encode_decode b₂ x h₂]

/-- The hypothesis is the range of Go's length prefix (uint64); the node bounds transactions by 16 144 bytes
(`maxTxLength`, coreV2/transaction/executor.go). -/
theorem decode_encode (x : Item) (h : (encode x).length < 2 ^ 64) : decode (encode x) = some x :=
  decode_eq_some.mpr ⟨rfl, sizeOk_of_length x h⟩

theorem decode_encode_of_decoded (b : Bytes) (x : Item) (h : decode b = some x) : decode (encode x) = some x := by
  rw [encode_decode b x h]; exact h

theorem decode_fuel_irrelevant (f : Nat) (b : Bytes) (x : Item) (h : decItem f b = some (x, [])) : decode b = some x :=
  (decode_some_iff b x).mpr (decItem_fuel_enough h)

/-- `ErrMoreThanOneValue` of rlp/decode.go. -/
theorem decode_prefix_free (b c : Bytes) (x : Item) (h : decode b = some x) (hc : c ≠ []) : decode (b ++ c) = none := by
  unfold decode
  rw [decItem_append c ((decode_some_iff b x).mp h)]
  cases c with
  | nil => exact absurd rfl hc
  | cons a t => rfl

theorem decode_no_trailing (b c : Bytes) (x : Item) (h : decode (b ++ c) = some x) (hc : c ≠ []) : decode b ≠ some x := by
  intro hb
  rw [decode_prefix_free b c x hb hc] at h; cases h

theorem uint_canonical (b : Bytes) (h : noLeadZero b = true) : natBE (beNat b) = b := natBE_beNat b h
theorem uint_roundtrip (n : Nat) : beNat (natBE n) = n ∧ noLeadZero (natBE n) = true := ⟨beNat_natBE n, noLeadZero_natBE n⟩

theorem asUint_canonical (bits : Nat) (x : Item) (n : Nat) (h : asUint bits x = some n) :
    x = uintItem n ∧ n < 256 ^ (bits / 8) := asUint_eq_some.mp h

/-! ## the outer transaction -/

theorem encodeTx_decodeTx (b : Bytes) (t : TxFields) (h : decodeTx b = some t) : encodeTx t = b :=
  encode_decode b _ (decodeTx_eq_some.mp h).1

theorem decodeTx_wf (b : Bytes) (t : TxFields) (h : decodeTx b = some t) : t.wf = true :=
  (decodeTx_eq_some.mp h).2

theorem decodeTx_encodeTx (t : TxFields) (hw : t.wf = true) (hs : (encodeTx t).length < 2 ^ 64) :
    decodeTx (encodeTx t) = some t :=
  decodeTx_eq_some.mpr ⟨decode_encode _ hs, hw⟩

theorem decodeTx_inj (b₁ b₂ : Bytes) (t : TxFields) (h₁ : decodeTx b₁ = some t) (h₂ : decodeTx b₂ = some t) : b₁ = b₂ := by
  rw [← encodeTx_decodeTx b₁ t h₁, ← encodeTx_decodeTx b₂ t h₂]

/-! ## typed values in general (transaction data by type, checks, signatures) -/

theorem accepts_reencode (s : Schema) (b : Bytes) (h : accepts s b = true) :
    ∃ x, decode b = some x ∧ conforms s x = true ∧ encode x = b := by
  unfold accepts at h
  split at h
  · next x hx => exact ⟨x, hx, h, encode_decode b x hx⟩
  · cases h

theorem accepts_inj (s : Schema) (b₁ b₂ : Bytes) (h₁ : accepts s b₁ = true) (_h₂ : accepts s b₂ = true)
    (hd : decode b₁ = decode b₂) : b₁ = b₂ := by
  obtain ⟨x, hx, _, _⟩ := accepts_reencode s b₁ h₁
  exact decode_inj b₁ b₂ x hx (hd ▸ hx)

/-- The three levels of `Executor.DecodeFromBytes`: the outer struct, the data struct of its type, the signature struct. -/
theorem acceptsTx_reencode (b : Bytes) (h : acceptsTx b = true) :
    ∃ t, decodeTx b = some t ∧ t.wf = true ∧ encodeTx t = b ∧
      (∃ s x, dataSchema t.typ = some s ∧ decode t.data = some x ∧ conforms s x = true ∧ encode x = t.data) ∧
      (∃ y, decode t.sigData = some y ∧ encode y = t.sigData ∧
        ((t.sigType = 1 ∧ conforms sigSchema y = true) ∨ (t.sigType = 2 ∧ conforms multiSigSchema y = true))) := by
  unfold acceptsTx at h
  split at h
  · cases h
  · next t ht =>
    simp only [Bool.and_eq_true] at h
    obtain ⟨hd, hs⟩ := h
    refine ⟨t, ht, decodeTx_wf b t ht, encodeTx_decodeTx b t ht, ?_, ?_⟩
    · split at hd
      · cases hd
      · next s hsch =>
        obtain ⟨x, hx, hc, he⟩ := accepts_reencode s _ hd
        exact ⟨s, x, hsch, hx, hc, he⟩
    · split at hs
      · next h1 =>
        obtain ⟨y, hy, hc, he⟩ := accepts_reencode _ _ hs
        exact ⟨y, hy, he, Or.inl ⟨h1, hc⟩⟩
      · split at hs
        · next h2 =>
          obtain ⟨y, hy, hc, he⟩ := accepts_reencode _ _ hs
          exact ⟨y, hy, he, Or.inr ⟨h2, hc⟩⟩
        · cases hs

theorem check_reencode (b : Bytes) (h : accepts checkSchema b = true) :
    ∃ x, decode b = some x ∧ conforms checkSchema x = true ∧ encode x = b := accepts_reencode checkSchema b h

/-! ## signatures -/

theorem encodeSig_decodeSig (b : Bytes) (v r s : Nat) (h : decodeSig b = some (v, r, s)) : encodeSig v r s = b :=
  encode_decode b _ (decodeSig_eq_some.mp h)

theorem decodeSig_inj (b₁ b₂ : Bytes) (σ : Nat × Nat × Nat) (h₁ : decodeSig b₁ = some σ) (h₂ : decodeSig b₂ = some σ) :
    b₁ = b₂ := by
  obtain ⟨v, r, s⟩ := σ
  rw [← encodeSig_decodeSig b₁ v r s h₁, ← encodeSig_decodeSig b₂ v r s h₂]

theorem decodeSig_encodeSig (v r s : Nat) (h : (encodeSig v r s).length < 2 ^ 64) :
    decodeSig (encodeSig v r s) = some (v, r, s) :=
  decodeSig_eq_some.mpr (decode_encode _ h)

theorem validSig_iff (v r s : Nat) :
    validSig v r s = true ↔ (v = 27 ∨ v = 28) ∧ 1 ≤ r ∧ r < secpN ∧ 1 ≤ s ∧ s ≤ secpHalfN := by
  have hN := secpHalfN_eq
  -- `V - 27` wraps in uint64 and is cut to a byte: 256 ∣ 2^64, so only `V mod 256` matters, and `V < 256`
  simp only [validSig, validateSignatureValues, Bool.ite_eq_true_distrib, if_false_left, Bool.and_eq_true, Bool.or_eq_true,
    decide_eq_true_eq, beq_iff_eq, Bool.false_eq_true, Nat.mod_mod_of_dvd _ (by decide : 256 ∣ 2 ^ 64)]
  omega

theorem highS_rejected (v v' r s : Nat) (h : validSig v r s = true) : validSig v' r (secpN - s) = false := by
  have hN := secpHalfN_eq
  rw [validSig_iff] at h
  rw [← Bool.not_eq_true, validSig_iff]
  omega

/-- `55 - v` is v xor 1 on the wire (27 ↔ 28): the textbook malleation. -/
theorem highS_flip_rejected (v r s : Nat) (h : validSig v r s = true) : validSig (55 - v) r (secpN - s) = false :=
  highS_rejected v (55 - v) r s h

theorem bad_v_rejected (v r s : Nat) (h27 : v ≠ 27) (h28 : v ≠ 28) : validSig v r s = false := by
  rw [← Bool.not_eq_true, validSig_iff]; omega

theorem zero_sig_rejected (v r s : Nat) (h : r = 0 ∨ s = 0) : validSig v r s = false := by
  rw [← Bool.not_eq_true, validSig_iff]; omega

theorem out_of_range_rejected (v r s : Nat) (h : secpN ≤ r ∨ secpHalfN < s) : validSig v r s = false := by
  rw [← Bool.not_eq_true, validSig_iff]; omega

/-- the nine fields covered by `tx.Hash()` (everything but `SignatureData`). -/
def TxFields.signedPart (t : TxFields) : TxFields := { t with sigData := [] }

/-- The last clause of C23 for SignatureType = 1: nothing in the accepted bytes is free beyond the signed content and
(v, r, s), and by `highS_rejected` the only known third-party transformation of an ECDSA signature,
(v, r, s) ↦ (v xor 1, r, N − s), yields a rejected transaction. -/
theorem single_sig_encoding_unique (b₁ b₂ : Bytes) (t₁ t₂ : TxFields) (σ : Nat × Nat × Nat)
    (h₁ : decodeTx b₁ = some t₁) (h₂ : decodeTx b₂ = some t₂) (hp : t₁.signedPart = t₂.signedPart)
    (s₁ : decodeSig t₁.sigData = some σ) (s₂ : decodeSig t₂.sigData = some σ) : b₁ = b₂ := by
  have e : ∀ t : TxFields, t = { t.signedPart with sigData := t.sigData } := fun _ => rfl
  have : t₁ = t₂ := by rw [e t₁, e t₂, hp, decodeSig_inj _ _ σ s₁ s₂]
  exact decodeTx_inj b₁ b₂ t₁ h₁ (this ▸ h₂)

/-! ## the multisig boundary (F24 — reproduced on the real node, see the `multisig_malleability` note of harness mode `rlp`)

For SignatureType = 2 the signed hash covers the nine fields but not `SignatureData`, and the executor accepts the
signature list in any order, any sub-list that reaches the threshold, and padding with signatures of non-owners (weight 0).
The three byte strings below were all answered with code 0 by `DeliverTx` on identical states; they carry the same signed
content and sender.  So `single_sig_encoding_unique` has no multisig counterpart: the model, like the code, accepts them all. -/

/-- What a multisig transaction binds: the signed fields and the multisig address.  The signature list is left out. -/
def msigView (b : Bytes) : Option (TxFields × Option Bytes) :=
  (decodeTx b).map fun t => (t.signedPart, (decodeMultiSig t.sigData).map (·.1))

open Sample in
theorem multisig_signature_list_not_canonical :
    -- three different byte strings …
    msigTxA ≠ msigTxB ∧ msigTxA ≠ msigTxC ∧ msigTxB ≠ msigTxC ∧
    -- … all accepted by the transaction decoder …
    acceptsTx msigTxA = true ∧ acceptsTx msigTxB = true ∧ acceptsTx msigTxC = true ∧
    -- … with the same signed content (hence the same `tx.Hash()`), signature type 2 and the same multisig sender …
    (msigView msigTxA).isSome = true ∧ msigView msigTxA = msigView msigTxB ∧ msigView msigTxA = msigView msigTxC ∧
    (decodeTx msigTxA).map (·.sigType) = some 2 ∧
    -- … B carries A's signatures in reverse order, C only the last of them.
    ((decodeTx msigTxB).bind fun t => (decodeMultiSig t.sigData).map (·.2)) =
      ((decodeTx msigTxA).bind fun t => (decodeMultiSig t.sigData).map (·.2.reverse)) ∧
    ((decodeTx msigTxC).bind fun t => (decodeMultiSig t.sigData).map (·.2)) =
      ((decodeTx msigTxA).bind fun t => (decodeMultiSig t.sigData).map (·.2.drop 2)) := by
  decide +kernel

/-! ## non-vacuity: concrete inputs (evaluated by the kernel) -/
section Examples
open Sample

-- the textbook example ["cat","dog"]
example : decode [0xc8, 0x83, 0x63, 0x61, 0x74, 0x83, 0x64, 0x6f, 0x67] = some (.list [.str [0x63, 0x61, 0x74], .str [0x64, 0x6f, 0x67]]) := by decide +kernel
example : encode (.list [.str [0x63, 0x61, 0x74], .str [0x64, 0x6f, 0x67]]) = [0xc8, 0x83, 0x63, 0x61, 0x74, 0x83, 0x64, 0x6f, 0x67] := by decide +kernel
example : decode [0xc3, 0x01, 0xc0, 0x80] = some (.list [.str [1], .list [], .str []]) := by decide +kernel
example : decode [0x81, 0x05] = none := by decide +kernel                      -- single byte < 0x80 with a string header (ErrCanonSize)
example : decode [0xb8, 0x02, 0xaa, 0xbb] = none := by decide +kernel          -- long form for a 2-byte string (ErrCanonSize)
example : decode [0xf8, 0x01, 0x80] = none := by decide +kernel                -- long form for a 1-byte list
example : decode ([0xb9, 0x00, 0x38] ++ List.replicate 56 0xaa) = none := by decide +kernel   -- leading zero in the length
example : decode ([0xb8, 0x38] ++ List.replicate 56 0xaa) = some (.str (List.replicate 56 0xaa)) := by decide +kernel
example : decode [0xc0, 0x00] = none := by decide +kernel                      -- trailing byte (ErrMoreThanOneValue)
example : decode [0xc2, 0x80] = none := by decide +kernel                      -- list shorter than declared
example : decode [0xc1, 0x82, 0x01] = none := by decide +kernel                -- element larger than its list (ErrElemTooLarge)
example : decode [] = none := by decide +kernel
example : asUint 64 (.str [0x04, 0x00]) = some 1024 ∧ asUint 64 (.str [0x00, 0x04]) = none ∧ asUint 64 (.str [0x00]) = none
    ∧ asUint 64 (.str []) = some 0 ∧ asUint 8 (.str [1, 0]) = none ∧ asUint 32 (.str [1, 2, 3, 4, 5]) = none := by decide +kernel
example : natBE 1024 = [4, 0] ∧ natBE 0 = [] ∧ beNat [4, 0] = 1024 := by decide +kernel
-- a real signed transaction (Send, gas coin 6) produced by the node's own code
example : decodeTx realTx = some ⟨1, 2, 1, 6, 1, realTxData, [], [], 1, realTxSig⟩ := by decide +kernel
example : encodeTx ⟨1, 2, 1, 6, 1, realTxData, [], [], 1, realTxSig⟩ = realTx := by decide +kernel
example : (⟨1, 2, 1, 6, 1, realTxData, [], [], 1, realTxSig⟩ : TxFields).wf = true ∧ realTx.length < 2 ^ 64 := by decide +kernel
example : acceptsTx realTx = true := by decide +kernel
example : decodeSig realTxSig = some (27, realR, realS) := by decide +kernel
example : validSig 27 realR realS = true ∧ validSig 28 realR (secpN - realS) = false ∧ validSig 29 realR realS = false
    ∧ validSig 0 realR realS = false ∧ validSig (27 + 256) realR realS = false := by decide +kernel
example : validSig 28 1 secpHalfN = true ∧ validSig 28 1 (secpHalfN + 1) = false ∧ validSig 27 secpN 1 = false
    ∧ validSig 27 0 1 = false ∧ validSig 27 1 0 = false := by decide +kernel
-- the same transaction with a non-canonical nonce (0x8101 instead of 0x01) or a trailing byte is rejected
example : decodeTx ([0xf8, 0x72, 0x81, 0x01] ++ realTx.drop 3) = none := by decide +kernel
example : decodeTx (realTx ++ [0x00]) = none := by decide +kernel
-- a real signed check
example : accepts checkSchema realCheck = true := by decide +kernel
example : accepts checkSchema (realCheck ++ [0]) = false := by decide +kernel
end Examples

end Rlp
end Minter
