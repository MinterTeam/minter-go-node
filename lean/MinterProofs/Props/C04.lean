import MinterProofs.TxLemmas
/-
  C04 (a signed transaction takes effect at most once and only in order) and C03 (a rejection charges the failure fee and
  changes nothing else). The only `setNonce` of a delivery is the one `successOutcome` appends: its guards keep the handler's
  moves and the ticker burn from touching a nonce, and the guard of `failureOutcome` keeps a rejection to fee moves (either
  would be a fault of the model, not an outcome). Props/C26.lean continues from `C04_replay_rejected`.
-/
namespace Minter

theorem tickerBurn_noNonce (s : State) (t : TxIn) (burn : List Move) (tg : List (String × String))
    (h : tickerBurn s t = .ok (burn, tg)) : burn.any Move.isSetNonce = false := by
  rcases tickerBurn_eq_ok s t burn tg h with ⟨rfl, -⟩ | ⟨-, v, -, -, rfl, -⟩ <;> rfl

theorem C04_accept_in_order (P : Params) (o : Oracle) (s : State) (b : Nat) (t : TxIn) (out : Outcome)
    (h : deliverTx P o s b t = .ok out) (hc : out.code = 0) :
    t.nonce = nonceOf s t.sender + 1 ∧ t.chain = P.chain ∧ t.sigOk = true := by
  obtain ⟨-, hchain, hsig, hn, -⟩ := prologue_none P s b t (deliver_accepted P o s b t out h hc).1
  exact ⟨hn.symm, hchain, hsig⟩

theorem C03_reject_fee_only (P : Params) (o : Oracle) (s : State) (b : Nat) (t : TxIn) (out : Outcome)
    (h : deliverTx P o s b t = .ok out) (hc : out.code ≠ 0) : out.moves.all Move.isFee = true := by
  unfold deliverTx at h
  split at h
  · cases h; rfl
  · rcases deliverBody_shape P o s b t out h with hr | ⟨-, -, r, -, -, -, hs⟩
    · exact hr.2.1
    · obtain ⟨-, -, -, h0, -⟩ := successOutcome_ok s t r out hs
      exact absurd h0 hc

def Prim.isSetNonce (p : Prim) : Bool := (Move.admin p).isSetNonce

theorem any_ite_false {α : Type} {c : Prop} [Decidable c] {f : α → Bool} {a b : List α}
    (ha : a.any f = false) (hb : b.any f = false) : (if c then a else b).any f = false := by
  split <;> assumption

theorem Move.prims_noNonce (m : Move) (h : m.isSetNonce = false) : m.prims.any Prim.isSetNonce = false := by
  cases m with
  | admin q => exact any_ite_false ((Bool.or_false _).trans h) rfl
  | transfer | feeBase | burnTicker | lock | declare | orderAdd | orderRemove => rfl
  | mint | feeBancor | createCoin | poolCreate | poolMint | poolBurn => exact any_ite_false rfl rfl
  | delegate _ _ _ _ wl => cases wl <;> rfl
  | unbond _ _ _ _ wl _ =>
    cases wl with
    | none => rfl
    | some w => exact any_ite_false rfl (any_ite_false rfl rfl)
  | bancor => exact (List.any_append ..).trans (by rw [any_ite_false rfl rfl, any_ite_false rfl rfl]; rfl)
  | poolSell _ _ _ sellsC0 => cases sellsC0 <;> exact any_ite_false (any_ite_false rfl rfl) rfl

theorem planOf_noNonce (ms : List Move) (h : ms.any Move.isSetNonce = false) : (planOf ms).any Prim.isSetNonce = false := by
  rw [planOf, List.any_flatMap]
  rw [List.any_eq_false] at h ⊢
  exact fun m hm => Bool.eq_false_iff.mp (m.prims_noNonce (Bool.eq_false_iff.mpr (h m hm)))

theorem lookup_setAssoc {κ β : Type} [BEq κ] [LawfulBEq κ] (l : List (κ × β)) (k x : κ) (v : β) :
    (setAssoc l k v).lookup x = if x == k then some v else l.lookup x := by
  rw [setAssoc, List.lookup_cons]
  split
  · next h => rw [if_pos h]
  · next h =>
    rw [if_neg (Bool.not_eq_true _ ▸ h)]
    induction l with
    | nil => rfl
    | cons e l ih =>
      rw [List.filter_cons, List.lookup_cons]
      split
      · rw [List.lookup_cons, ih]
      · next he =>
        have : (x == e.1) = false := by
          rw [Bool.not_eq_true, Bool.not_eq_false'] at he
          rw [eq_of_beq he]; exact h
        rw [this, ih]

theorem nonceOf_setNonce (s : State) (a x : Addr) (n : Nat) :
    nonceOf ((Prim.setNonce a n).apply s) x = if x = a then n else nonceOf s x := by
  simp only [nonceOf, Prim.apply, lookup_setAssoc, beq_iff_eq]
  split <;> rfl

theorem apply_nonces (s : State) (p : Prim) (h : p.isSetNonce = false) : (p.apply s).nonces = s.nonces := by
  cases p <;> first | rfl | cases h

theorem checked_nonces (s s' : State) (ps : List Prim) (hn : ps.any Prim.isSetNonce = false)
    (h : applyChecked s ps = some s') (x : Addr) : nonceOf s' x = nonceOf s x := by
  induction ps generalizing s with
  | nil => cases h; rfl
  | cons p t ih =>
    rw [List.any_cons, Bool.or_eq_false_iff] at hn
    rw [ih _ hn.2 (applyChecked_cons _ _ _ _ h).2, nonceOf, apply_nonces _ _ hn.1]
    rfl

/-- The nonce clauses of C03 as well. -/
theorem C04_nonce_effect (P : Params) (o : Oracle) (s s' : State) (b : Nat) (t : TxIn) (out : Outcome)
    (h : deliverTx P o s b t = .ok out) (ha : applyChecked s out.plan = some s') :
    (out.code = 0 → nonceOf s' t.sender = nonceOf s t.sender + 1 ∧ ∀ x, x ≠ t.sender → nonceOf s' x = nonceOf s x) ∧
    (out.code ≠ 0 → ∀ x, nonceOf s' x = nonceOf s x) := by
  constructor
  · intro hc
    obtain ⟨-, -, -, r, -, -, -, hs⟩ := deliver_accepted P o s b t out h hc
    obtain ⟨burn, -, -, -, hm, -, hnn, hbn, -⟩ := successOutcome_ok s t r out hs
    -- the plan: the handler's and the ticker burn's primitives (no nonce among them), then the sender's nonce
    have hplan : out.plan = planOf (r.moves ++ burn) ++ [Prim.setNonce t.sender t.nonce] := by
      rw [Outcome.plan, hm, successMoves, planOf, List.flatMap_append]; rfl
    rw [hplan, applyChecked_append] at ha
    obtain ⟨s1, h1, h2⟩ := Option.bind_eq_some_iff.mp ha
    cases h2
    have hn1 := checked_nonces s s1 _ (planOf_noNonce _ (by rw [List.any_append, hnn, hbn]; rfl)) h1
    simp only [nonceOf_setNonce, hn1, if_true]
    exact ⟨(C04_accept_in_order P o s b t out h hc).1, fun x hx => if_neg hx⟩
  · intro hc
    refine checked_nonces s s' _ (planOf_noNonce _ (List.any_eq_false.mpr fun m hm hs => ?_)) ha
    have := List.all_eq_true.mp (C03_reject_fee_only P o s b t out h hc) m hm
    cases m <;> first | cases hs | cases this

/-- After an acceptance the stored nonce is the transaction's (`C04_nonce_effect`), so `hstale` holds for the same bytes.
    The rejection comes from the nonce check or an earlier one of the prologue and has no moves: no fee. -/
theorem C04_replay_rejected (P : Params) (o : Oracle) (s : State) (b : Nat) (t : TxIn)
    (hstale : t.nonce ≤ nonceOf s t.sender) :
    ∃ c, c ≠ 0 ∧ deliverTx P o s b t = .ok { code := c, moves := [], tags := [] } := by
  unfold deliverTx
  cases hp : prologue P s b t with
  | some c => exact ⟨c, fun h0 => prologue_ne_zero P s b t (h0 ▸ hp), rfl⟩
  | none =>
    have := (prologue_none P s b t hp).2.2.2.1
    omega

end Minter
