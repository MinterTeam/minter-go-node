import MinterModel.Tx
import MinterProofs.Props.C04
/-
  C05 (value leaves an account only with that account's authorization), for transactions. `successOutcome` and
  `failureOutcome` evaluate the decidable guard `Move.debitOk` on every move and answer with a fault of the model
  ("model: unauthorised debit in a handler") instead of an outcome when it fails; so the theorems speak of every delivery
  the model answers, and what they add is that a guarded move lowers nobody else's balance, stake, waitlist entry,
  frozen fund or order escrow. The property's clauses about protocol actions (fills, expiry, kicks, slashing) and about
  owner-only settings are not in this file.
-/
namespace Minter

/-- What `Move.debitOk` comes to on one primitive: a balance is lowered only for the sender or the check issuer, and a stake,
    pending update, waitlist entry, frozen fund or order is touched only when the sender owns it. -/
def Prim.debitOk (sender : Addr) (issuer : Option Addr) : Prim → Prop
  | .addBal a _ v => 0 ≤ v ∨ a = sender ∨ issuer = some a
  | .addStake _ a _ _ => a = sender
  | .newStake _ st | .pushUpdate _ st | .delStake _ st => st.owner = sender
  | .addWait w | .delWait w => w.owner = sender
  | .addFrozen f | .delFrozen f => f.addr = sender
  | .addOrder o | .delOrder o => o.owner = sender
  | .fillOrder .. => False
  | _ => True

theorem Move.debitOk_prims (m : Move) (sender : Addr) (issuer : Option Addr) (hg : m.debitOk sender issuer = true) :
    ∀ p ∈ m.prims, p.debitOk sender issuer := by
  cases m
  all_goals simp only [Move.debitOk, Bool.and_eq_true, Bool.or_eq_true, decide_eq_true_eq, beq_iff_eq] at hg
  -- each case goes through the primitives in the order of `Move.prims`: `trivial` for one that names no account,
  -- `.inl` for a credit, `.inr` for a debit of the sender or the issuer, `hg` for a holding of the sender's
  case transfer a b c v =>
    exact forall_mem_cons_of (.inr hg.2) (forall_mem_cons_of (.inl hg.1) forall_mem_nil)
  case mint a c v =>
    exact forall_mem_ite forall_mem_nil (forall_mem_cons_of trivial (forall_mem_cons_of (hg.imp_right .inl) forall_mem_nil))
  case feeBase a v =>
    exact forall_mem_cons_of (.inr hg.2) (forall_mem_cons_of trivial forall_mem_nil)
  case feeBancor a c commission inBase =>
    exact forall_mem_ite forall_mem_nil (forall_mem_cons_of trivial (forall_mem_cons_of trivial
      (forall_mem_cons_of (.inr hg.2) (forall_mem_cons_of trivial forall_mem_nil))))
  case poolSell a c0 c1 sellsC0 net out burn toRewards dest =>
    have pool : ∀ d0 d1 d0' d1',
        (if sellsC0 then Prim.addPool c0 c1 d0 d1 else Prim.addPool c0 c1 d0' d1').debitOk sender issuer := by
      intros
      split <;> trivial
    exact forall_mem_ite
      (forall_mem_ite (forall_mem_cons_of (pool ..) (forall_mem_cons_of (.inl hg.1.2) (forall_mem_cons_of (.inr hg.2)
        (forall_mem_cons_of trivial forall_mem_nil)))) forall_mem_nil)
      (forall_mem_cons_of (pool ..) (forall_mem_cons_of (.inl hg.1.2) (forall_mem_cons_of (.inr hg.2)
        (forall_mem_cons_of (.inl hg.1.1.2) forall_mem_nil))))
  case createCoin a ci =>
    exact forall_mem_ite forall_mem_nil (forall_mem_cons_of (.inr (.inl hg)) (forall_mem_cons_of trivial
      (forall_mem_cons_of (.inr (.inl hg)) forall_mem_nil)))
  case burnTicker v =>
    exact forall_mem_cons_of trivial (forall_mem_cons_of (.inl hg) forall_mem_nil)
  case admin q =>
    simp only [Move.prims]
    split
    · next ha => exact forall_mem_cons_of (by cases q <;> first | trivial | cases ha) forall_mem_nil
    · exact forall_mem_nil
  case bancor a sell sellAmt buy buyAmt bip =>
    exact List.forall_mem_append.2
      ⟨forall_mem_ite (forall_mem_cons_of (.inr (.inl hg)) forall_mem_nil)
        (forall_mem_cons_of (.inr (.inl hg)) (forall_mem_cons_of trivial (forall_mem_cons_of trivial forall_mem_nil))),
      forall_mem_ite (forall_mem_cons_of (.inr (.inl hg)) forall_mem_nil)
        (forall_mem_cons_of (.inr (.inl hg)) (forall_mem_cons_of trivial (forall_mem_cons_of trivial forall_mem_nil)))⟩
  case delegate a cand coin value wl =>
    cases wl
    · exact forall_mem_cons_of (.inr (.inl hg)) (forall_mem_cons_of hg forall_mem_nil)
    · exact forall_mem_cons_of (.inr (.inl hg)) (forall_mem_cons_of hg (forall_mem_cons_of hg forall_mem_nil))
  case unbond a stakeCand coin value wl f =>
    cases wl
    · exact forall_mem_cons_of hg (forall_mem_cons_of hg forall_mem_nil)
    · exact forall_mem_ite (forall_mem_cons_of hg (forall_mem_cons_of hg (forall_mem_cons_of hg forall_mem_nil)))
        (forall_mem_ite (forall_mem_cons_of hg (forall_mem_cons_of hg (forall_mem_cons_of hg forall_mem_nil)))
          (forall_mem_cons_of hg (forall_mem_cons_of hg forall_mem_nil)))
  case lock a f =>
    exact forall_mem_cons_of (.inr (.inl hg.1)) (forall_mem_cons_of hg.1 forall_mem_nil)
  case declare a cd coin stake =>
    exact forall_mem_cons_of (.inr (.inl hg)) (forall_mem_cons_of trivial (forall_mem_cons_of hg forall_mem_nil))
  case poolCreate a pl lp =>
    exact forall_mem_ite forall_mem_nil (forall_mem_cons_of trivial (forall_mem_cons_of (.inr (.inl hg.1))
      (forall_mem_cons_of (.inr (.inl hg.1)) (forall_mem_cons_of trivial (forall_mem_cons_of (.inr (.inl hg.1))
      (forall_mem_cons_of (.inl (by decide)) forall_mem_nil))))))
  case poolMint a c0 c1 a0 a1 lp liq =>
    exact forall_mem_ite forall_mem_nil (forall_mem_cons_of trivial (forall_mem_cons_of (.inr (.inl hg))
      (forall_mem_cons_of (.inr (.inl hg)) (forall_mem_cons_of trivial (forall_mem_cons_of (.inr (.inl hg)) forall_mem_nil)))))
  case poolBurn a c0 c1 a0 a1 lp liq =>
    exact forall_mem_ite forall_mem_nil (forall_mem_cons_of trivial (forall_mem_cons_of (.inr (.inl hg))
      (forall_mem_cons_of (.inr (.inl hg)) (forall_mem_cons_of trivial (forall_mem_cons_of (.inr (.inl hg)) forall_mem_nil)))))
  case orderAdd a o =>
    exact forall_mem_cons_of (.inr (.inl hg.1)) (forall_mem_cons_of hg.2 forall_mem_nil)
  case orderRemove a o =>
    exact forall_mem_cons_of hg.2 (forall_mem_cons_of (.inr (.inl hg.1)) forall_mem_nil)

theorem Prim.debitOk_balDelta {p : Prim} {sender x : Addr} {issuer : Option Addr} (h : p.debitOk sender issuer)
    (hx : x ≠ sender) (hi : issuer ≠ some x) (c : Coin) : 0 ≤ p.balDelta x c := by
  cases p with
  | addBal a c' v =>
    simp only [Prim.balDelta]
    split
    · next hax =>
      rcases h with h | h | h
      · exact h
      · exact absurd (hax.1 ▸ h) hx
      · exact absurd (hax.1 ▸ h) hi
    · exact Int.le_refl 0
  | _ => exact Int.le_refl 0

theorem move_debit_guard (m : Move) (sender : Addr) (issuer : Option Addr) (x : Addr) (c : Coin)
    (hg : m.debitOk sender issuer = true) (hx : x ≠ sender) (hi : issuer ≠ some x) :
    ∀ p ∈ m.prims, 0 ≤ p.balDelta x c :=
  fun p hp => Prim.debitOk_balDelta (m.debitOk_prims sender issuer hg p hp) hx hi c

theorem deliver_moves_guarded (P : Params) (o : Oracle) (s : State) (b : Nat) (t : TxIn) (out : Outcome)
    (h : deliverTx P o s b t = .ok out) : out.moves.all (Move.debitOk t.sender t.issuer) = true := by
  unfold deliverTx at h
  split at h
  · cases h; rfl
  · rcases deliverBody_shape P o s b t out h with hr | ⟨-, -, r, -, -, -, hs⟩
    · exact hr.2.2
    · obtain ⟨burn, -, -, -, hm, -, -, -, hg, -⟩ := successOutcome_ok s t r out hs
      rw [hm]; exact hg

theorem deliver_prims_guarded (P : Params) (o : Oracle) (s : State) (b : Nat) (t : TxIn) (out : Outcome)
    (h : deliverTx P o s b t = .ok out) : ∀ p ∈ out.plan, p.debitOk t.sender t.issuer := by
  intro p hp
  obtain ⟨m, hm, hpm⟩ := List.mem_flatMap.1 hp
  exact m.debitOk_prims _ _ (List.all_eq_true.mp (deliver_moves_guarded P o s b t out h) m hm) p hpm

/-- Accepted or rejected alike. The one account besides the sender that may be debited is, for a check redemption, the
    issuer who signed the check (`TxIn.issuer`: the address recovered from the check's own signature). -/
theorem C05_balance_only_sender (P : Params) (o : Oracle) (s s' : State) (b : Nat) (t : TxIn) (out : Outcome)
    (h : deliverTx P o s b t = .ok out) (ha : applyChecked s out.plan = some s')
    (x : Addr) (hx : x ≠ t.sender) (hi : t.issuer ≠ some x) (c : Coin) : balanceOf s x c ≤ balanceOf s' x c :=
  checked_mono (balanceOf · x c) (Prim.balDelta x c) (fun s p _ => apply_balance s p x c) s s' out.plan
    (fun p hp => Prim.debitOk_balDelta (deliver_prims_guarded P o s b t out h p hp) hx hi c) ha

/-- Type 9 is RedeemCheck: for every other type `hi` of `C05_balance_only_sender` holds for free. -/
theorem issuer_none_of_not_redeem (t : TxIn) (h : t.typ ≠ 9) : t.issuer = none := by
  unfold TxIn.issuer
  have : (t.typ == 9) = false := by simpa using h
  simp [this]

/-- Anything beyond the prologue happens only when the signature recovered to the sender (`sigOk`) or, for a multisig
    sender, to distinct addresses whose weights as owners reach the threshold (`multisigCheck`). -/
theorem C05_moves_need_authorization (P : Params) (o : Oracle) (s : State) (b : Nat) (t : TxIn) (out : Outcome)
    (h : deliverTx P o s b t = .ok out) (hm : out.moves ≠ []) :
    t.sigOk = true ∧ (t.sigType = 2 → multisigCheck s t = none) := by
  unfold deliverTx at h
  split at h
  · cases h; exact absurd rfl hm
  · next hp =>
    have := prologue_none P s b t hp
    exact ⟨this.2.2.1, this.2.2.2.2⟩

/-! ### Stakes, pending updates, waitlist entries, frozen funds and order escrows are reduced only by their owner -/

def stakeOfOwner (x : Addr) (c : Coin) (st : Stake) : Int := if st.owner = x ∧ st.coin = c then st.value else 0
def ownStake (s : State) (x : Addr) (c : Coin) : Int :=
  sumBy (fun cd => sumBy (stakeOfOwner x c) cd.stakes + sumBy (stakeOfOwner x c) cd.updates) s.candidates
def ownWait (s : State) (x : Addr) (c : Coin) : Int := sumBy (fun w => if w.owner = x ∧ w.coin = c then w.value else 0) s.waitlist
def ownFrozen (s : State) (x : Addr) (c : Coin) : Int := sumBy (fun f => if f.addr = x ∧ f.coin = c then f.value else 0) s.frozen
def ownEscrow (s : State) (x : Addr) (c : Coin) : Int := sumBy (fun o => if o.owner = x then orderEscrow c o else 0) s.orders

/-- The valuations `ownWait`, `ownFrozen`, `ownEscrow` sum over their lists (the three definitions above unfold to `sumBy` of these). -/
def waitOfOwner (x : Addr) (c : Coin) (w : WaitEntry) : Int := if w.owner = x ∧ w.coin = c then w.value else 0
def frozenOfOwner (x : Addr) (c : Coin) (f : Frozen) : Int := if f.addr = x ∧ f.coin = c then f.value else 0
def escrowOfOwner (x : Addr) (c : Coin) (o : Order) : Int := if o.owner = x then orderEscrow c o else 0

/-- A valuation `…OfOwner x c` is `0` on what another owner holds. -/
theorem Prim.debitOk_holdings {p : Prim} {sender x : Addr} {issuer : Option Addr} (h : p.debitOk sender issuer)
    (hx : x ≠ sender) (c : Coin) :
    0 ≤ p.dStakeBy (stakeOfOwner x c) ∧ 0 ≤ p.dWaitBy (waitOfOwner x c) ∧ 0 ≤ p.dFrozenBy (frozenOfOwner x c) ∧ 0 ≤ p.dOrderBy (escrowOfOwner x c) := by
  have other : ∀ a, a = sender → ¬ a = x := fun a ha e => hx (e ▸ ha)
  cases p with
  | addStake _ a _ _ | newStake _ st | pushUpdate _ st | delStake _ st =>
    simp [Prim.dStakeBy, Prim.dWaitBy, Prim.dFrozenBy, Prim.dOrderBy, stakeOfOwner, other _ h]
  | addWait w | delWait w =>
    simp [Prim.dStakeBy, Prim.dWaitBy, Prim.dFrozenBy, Prim.dOrderBy, waitOfOwner, other _ h]
  | addFrozen f | delFrozen f =>
    simp [Prim.dStakeBy, Prim.dWaitBy, Prim.dFrozenBy, Prim.dOrderBy, frozenOfOwner, other _ h]
  | addOrder o | delOrder o =>
    simp [Prim.dStakeBy, Prim.dWaitBy, Prim.dFrozenBy, Prim.dOrderBy, escrowOfOwner, other _ h]
  | fillOrder => exact h.elim
  | _ => exact ⟨Int.le_refl 0, Int.le_refl 0, Int.le_refl 0, Int.le_refl 0⟩

theorem move_holdings_guard (m : Move) (sender : Addr) (issuer : Option Addr) (x : Addr) (c : Coin)
    (hg : m.debitOk sender issuer = true) (hx : x ≠ sender) :
    ∀ p ∈ m.prims, 0 ≤ p.dStakeBy (stakeOfOwner x c) ∧ 0 ≤ p.dWaitBy (waitOfOwner x c) ∧ 0 ≤ p.dFrozenBy (frozenOfOwner x c) ∧ 0 ≤ p.dOrderBy (escrowOfOwner x c) :=
  fun p hp => Prim.debitOk_holdings (m.debitOk_prims sender issuer hg p hp) hx c

/-- Accepted or rejected alike; `ownStake` counts pending updates as well. Here the check issuer needs no exception. -/
theorem C05_holdings_only_sender (P : Params) (o : Oracle) (s s' : State) (b : Nat) (t : TxIn) (out : Outcome)
    (h : deliverTx P o s b t = .ok out) (ha : applyChecked s out.plan = some s')
    (x : Addr) (hx : x ≠ t.sender) (c : Coin) :
    ownStake s x c ≤ ownStake s' x c ∧ ownWait s x c ≤ ownWait s' x c ∧
    ownFrozen s x c ≤ ownFrozen s' x c ∧ ownEscrow s x c ≤ ownEscrow s' x c := by
  have hall := fun p hp => Prim.debitOk_holdings (deliver_prims_guarded P o s b t out h p hp) hx c
  exact ⟨checked_mono (ownStake · x c) _ (apply_stakes (stakeOfOwner x c) fun _ _ => ite_add_zero ..) s s' _ (fun p hp => (hall p hp).1) ha,
    checked_mono (ownWait · x c) _ (apply_waitlist (waitOfOwner x c)) s s' _ (fun p hp => (hall p hp).2.1) ha,
    checked_mono (ownFrozen · x c) _ (apply_frozen (frozenOfOwner x c)) s s' _ (fun p hp => (hall p hp).2.2.1) ha,
    checked_mono (ownEscrow · x c) _ (apply_orders (escrowOfOwner x c)) s s' _ (fun p hp => (hall p hp).2.2.2) ha⟩

end Minter
