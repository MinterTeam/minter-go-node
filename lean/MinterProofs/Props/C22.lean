import MinterModel.Tx
import MinterProofs.TxLemmas
import MinterProofs.Props.C02
import MinterProofs.Props.C26
/-
  C22 (coin registry: unique tickers, fresh ids, owner-only control).
  Ids: `successOutcome` evaluates `freshIdsOk` on the moves (at most one new coin, with id `ncoins + 1`; anything else is a
  fault of the model, not an outcome); only the primitive `createCoin` moves the counter or the list of ids; and `Dense`
  (every id ≤ counter) makes `ncoins + 1` an id no coin has. Control: each registry handler inverted on its validated result.
  Ticker uniqueness is shown for the registry steps of create / recreate, not for whole deliveries (that needs "no other move
  bumps a version").
-/
namespace Minter

/-! ### Ids -/

def Prim.newCoin : Prim → Option CoinInfo
  | .createCoin ci => some ci
  | _ => none

def coinPrims (ps : List Prim) : List CoinInfo := ps.filterMap Prim.newCoin

theorem apply_ncoins (s : State) (p : Prim) : (p.apply s).ncoins = s.ncoins + (match p.newCoin with | some _ => 1 | none => 0) := by
  cases p <;> rfl

theorem apply_ncoins_mono (s : State) (p : Prim) : s.ncoins ≤ (p.apply s).ncoins := by
  rw [apply_ncoins]; omega

/-- The registry after a primitive, seen through an `f` that does not look at volume, reserve or owner, nor at the version
    where `p` sets one: only `createCoin` adds an entry. -/
theorem apply_coins_map {β : Type} (f : CoinInfo → β) (s : State) (p : Prim)
    (hf : ∀ ci vol res own, f { ci with volume := vol, reserve := res, owner := own } = f ci)
    (hv : ∀ c v, p = .bumpVersion c v → ∀ ci, f { ci with version := v } = f ci) :
    (p.apply s).coins.map f = s.coins.map f ++ (match p.newCoin with | some ci => [f ci] | none => []) := by
  cases p with
  | createCoin ci => exact List.map_append
  | addVolume c v => exact (map_updFirst_inv f _ _ _ fun ci => hf ci _ ci.reserve ci.owner).trans (List.append_nil _).symm
  | addReserve c v => exact (map_updFirst_inv f _ _ _ fun ci => hf ci ci.volume _ ci.owner).trans (List.append_nil _).symm
  | bumpVersion c v => exact (map_updFirst_inv f _ _ _ (hv c v rfl)).trans (List.append_nil _).symm
  | setCoinOwner sym a =>
    refine (List.map_map.trans (List.map_congr_left fun ci _ => ?_)).trans (List.append_nil _).symm
    simp only [Function.comp]
    split
    · exact hf ci ci.volume ci.reserve _
    · rfl
  | _ => exact (List.append_nil _).symm

def coinIds (s : State) : List Nat := s.coins.map (·.id)

theorem checked_registry (s s' : State) (ps : List Prim) (h : applyChecked s ps = some s') :
    s'.ncoins = s.ncoins + (coinPrims ps).length ∧ coinIds s' = coinIds s ++ (coinPrims ps).map (·.id) := by
  induction ps generalizing s with
  | nil => cases h; simp [coinPrims]
  | cons p t ih =>
    obtain ⟨_, ht⟩ := applyChecked_cons _ _ _ _ h
    obtain ⟨hn, hi⟩ := ih _ ht
    rw [hn, hi, apply_ncoins, coinIds, apply_coins_map (·.id) s p (fun _ _ _ _ => rfl) (fun _ _ _ _ => rfl)]
    simp only [coinPrims, List.filterMap_cons]
    cases p.newCoin <;> simp [coinIds] <;> omega

theorem reach_ncoins_mono (P : Params) (o : Oracle) (s s' : State) (hr : Reach P o s s') : s.ncoins ≤ s'.ncoins := by
  induction hr with
  | refl s => exact Nat.le_refl _
  | step s s1 s2 b t out _ ha _ ih =>
    have := (checked_registry s s1 out.plan ha).1
    omega

/-- `State.Import` sets the counter to `len(state.Coins)` (state.go): this holds after InitChain when the genesis ids are 1..n. -/
def Dense (s : State) : Prop := ∀ i ∈ coinIds s, i ≤ s.ncoins

/-- Only `createCoin` and `poolCreate` emit a `createCoin` primitive, under exactly the conditions of `Move.newCoin`. -/
theorem coinPrims_move (m : Move) : coinPrims m.prims = (match m.newCoin with | some ci => [ci] | none => []) := by
  cases m with
  | admin p =>
    simp only [Move.prims, Move.newCoin]
    split
    · next h => cases p <;> first | rfl | cases h
    · rfl
  | poolSell payer c0 c1 sellsC0 net out burn toRewards dest =>
    cases sellsC0 <;> cases toRewards <;> simp only [Move.prims, Move.newCoin, Bool.false_eq_true, if_false, if_true] <;> (try split) <;> rfl
  | bancor a sell sellAmt buy buyAmt bip => simp only [Move.prims, Move.newCoin]; split <;> split <;> rfl
  | delegate a cand coin value wl => cases wl <;> rfl
  | unbond a stakeCand coin value wl f =>
    cases wl with
    | none => rfl
    | some w => simp only [Move.prims, Move.newCoin]; split <;> (try split) <;> rfl
  | createCoin | poolCreate | mint | feeBancor | poolMint | poolBurn => simp only [Move.prims, Move.newCoin]; split <;> rfl
  | transfer | feeBase | burnTicker | lock | declare | orderAdd | orderRemove => rfl

theorem coinPrims_append (p q : List Prim) : coinPrims (p ++ q) = coinPrims p ++ coinPrims q := by
  simp [coinPrims, List.filterMap_append]

theorem coinPrims_planOf (ms : List Move) : coinPrims (planOf ms) = newCoins ms := by
  induction ms with
  | nil => rfl
  | cons m t ih =>
    simp only [planOf, List.flatMap_cons, coinPrims_append, newCoins, List.filterMap_cons] at *
    rw [coinPrims_move, ih]
    cases m.newCoin <;> simp

theorem fee_no_newCoin (m : Move) (h : m.isFee = true) : m.newCoin = none := by
  cases m <;> simp_all [Move.isFee, Move.newCoin]

theorem fees_no_newCoins (ms : List Move) (h : ms.all Move.isFee = true) : newCoins ms = [] := by
  induction ms with
  | nil => rfl
  | cons m t ih =>
    simp only [List.all_cons, Bool.and_eq_true] at h
    simp only [newCoins, List.filterMap_cons, fee_no_newCoin m h.1]
    exact ih h.2

theorem C22_fresh_id (P : Params) (o : Oracle) (s : State) (b : Nat) (t : TxIn) (out : Outcome)
    (h : deliverTx P o s b t = .ok out) :
    coinPrims out.plan = [] ∨ ∃ ci, coinPrims out.plan = [ci] ∧ ci.id = s.ncoins + 1 := by
  rw [Outcome.plan, coinPrims_planOf]
  unfold deliverTx at h
  split at h
  · cases h; left; rfl
  · rcases deliverBody_shape P o s b t out h with hr | ⟨-, -, r, -, -, -, hs⟩
    · left; exact fees_no_newCoins _ hr.2.1
    · obtain ⟨burn, -, -, -, hm, -, -, -, -, hf⟩ := successOutcome_ok s t r out hs
      rw [hm]
      unfold freshIdsOk at hf
      split at hf
      · next he => left; exact he
      · next ci he => right; exact ⟨ci, he, by simpa using hf⟩
      · cases hf

theorem C22_dense_preserved (P : Params) (o : Oracle) (s s' : State) (b : Nat) (t : TxIn) (out : Outcome)
    (h : deliverTx P o s b t = .ok out) (ha : applyChecked s out.plan = some s')
    (hd : Dense s) (hn : (coinIds s).Nodup) :
    Dense s' ∧ (coinIds s').Nodup ∧ s.ncoins ≤ s'.ncoins ∧
    (∀ ci ∈ coinPrims out.plan, ci.id = s.ncoins + 1 ∧ s'.ncoins = s.ncoins + 1 ∧ ci.id ∉ coinIds s) := by
  obtain ⟨hnc, hids⟩ := checked_registry s s' out.plan ha
  rw [Dense, hids, hnc]
  rcases C22_fresh_id P o s b t out h with he | ⟨ci, he, hid⟩
  · rw [he, List.map_nil, List.append_nil]
    exact ⟨hd, hn, Nat.le_refl _, fun _ hci => nomatch hci⟩
  · have hfresh : ci.id ∉ coinIds s := fun hmem => by
      have := hd _ hmem
      omega
    rw [he]
    refine ⟨fun i hi => ?_, ?_, Nat.le_succ _, fun c hc => ?_⟩
    · rcases List.mem_append.mp hi with hi | hi
      · exact Nat.le_succ_of_le (hd i hi)
      · cases List.mem_singleton.mp hi
        exact Nat.le_of_eq hid
    · refine List.nodup_append.mpr ⟨hn, by simp, fun a ha b hb e => ?_⟩
      cases List.mem_singleton.mp hb
      subst e
      exact hfresh ha
    · cases List.mem_singleton.mp hc
      exact ⟨hid, rfl, hfresh⟩

/-- The ids present stay present, and all stay distinct: an id once given is never given again. -/
theorem C22_ids_never_reused (P : Params) (o : Oracle) (s s' : State) (hr : Reach P o s s')
    (hd : Dense s) (hn : (coinIds s).Nodup) :
    Dense s' ∧ (coinIds s').Nodup ∧ (∀ i ∈ coinIds s, i ∈ coinIds s') := by
  induction hr with
  | refl s => exact ⟨hd, hn, fun _ h => h⟩
  | step s s1 s2 b t out hdl ha _ ih =>
    obtain ⟨hd1, hn1, _, _⟩ := C22_dense_preserved P o s s1 b t out hdl ha hd hn
    obtain ⟨hd2, hn2, hsub⟩ := ih hd1 hn1
    refine ⟨hd2, hn2, ?_⟩
    intro i hi
    apply hsub
    rw [(checked_registry s s1 out.plan ha).2]
    exact List.mem_append_left _ hi

/-! ### The registry handlers -/

structure NewCoinOk (s : State) (t : TxIn) (sym : String) (ci : CoinInfo) : Prop where
  id : ci.id = s.ncoins + 1
  version : ci.version = 0
  symbol : ci.symbol = sym
  owner : ci.owner = some t.sender
  supply : ci.volume ≤ ci.maxSupply

theorem create_coin_spec (P : Params) (o : Oracle) (s : State) (t : TxIn) (price : Int) (rd : Ready)
    (h : runCreateCoin P o s t price = .ok (.ok rd)) :
    symbolExists P s (t.str "d.Symbol") = false ∧ allowSymbol (t.str "d.Symbol") = true ∧
    ∃ ci tags, NewCoinOk s t (t.str "d.Symbol") ci ∧ ∀ adj, rd.exec adj = .ok ([.createCoin t.sender ci], tags) := by
  simp only [runCreateCoin, guard_ready_iff, withCom_ready_iff, ready_iff] at h
  obtain ⟨-, hallow, hsym, -, hamount, -, -, com, -, -, -, rfl⟩ := h
  simp only [Bool.or_eq_true, decide_eq_true_eq, not_or, Int.not_lt] at hamount
  exact ⟨by simpa using hsym, by simpa using hallow, _, _, ⟨rfl, rfl, rfl, rfl, hamount.2⟩, fun _ => rfl⟩

theorem create_token_spec (P : Params) (o : Oracle) (s : State) (t : TxIn) (price : Int) (rd : Ready)
    (h : runCreateToken P o s t price = .ok (.ok rd)) :
    symbolExists P s (t.str "d.Symbol") = false ∧ allowSymbol (t.str "d.Symbol") = true ∧
    ∃ ci tags, NewCoinOk s t (t.str "d.Symbol") ci ∧ ∀ adj, rd.exec adj = .ok ([.createCoin t.sender ci], tags) := by
  simp only [runCreateToken, guard_ready_iff, withCom_ready_iff, ready_iff] at h
  obtain ⟨-, hallow, hsym, -, hamount, -, com, -, -, rfl⟩ := h
  simp only [Bool.or_eq_true, decide_eq_true_eq, not_or, Int.not_lt] at hamount
  exact ⟨by simpa using hsym, by simpa using hallow, _, _, ⟨rfl, rfl, rfl, rfl, hamount.2⟩, fun _ => rfl⟩

theorem recreate_coin_spec (P : Params) (o : Oracle) (s : State) (t : TxIn) (price : Int) (rd : Ready)
    (h : runRecreateCoin P o s t price = .ok (.ok rd)) :
    symbolOwner s (t.str "d.Symbol") = some t.sender ∧
    ∃ old ci tags, coinBySymbolV0 s (t.str "d.Symbol") = some old ∧ NewCoinOk s t (t.str "d.Symbol") ci ∧
      ∀ adj, rd.exec adj = .ok ([.admin (.bumpVersion old.id (maxVersion s (t.str "d.Symbol") + 1)), .createCoin t.sender ci], tags) := by
  simp only [runRecreateCoin, guard_ready_iff] at h
  obtain ⟨-, hamount, -, -, -, -, h⟩ := h
  split at h
  · cases h
  · next old hold =>
    simp only [guard_ready_iff, withCom_ready_iff, ready_iff] at h
    obtain ⟨hown, com, -, -, -, -, rfl⟩ := h
    simp only [Bool.or_eq_true, decide_eq_true_eq, not_or, Int.not_lt] at hamount
    exact ⟨by simpa using hown, old, _, _, hold, ⟨rfl, rfl, rfl, rfl, hamount.2⟩, fun _ => rfl⟩

theorem recreate_token_spec (P : Params) (o : Oracle) (s : State) (t : TxIn) (price : Int) (rd : Ready)
    (h : runRecreateToken P o s t price = .ok (.ok rd)) :
    symbolOwner s (t.str "d.Symbol") = some t.sender ∧
    ∃ old ci tags, coinBySymbolV0 s (t.str "d.Symbol") = some old ∧ NewCoinOk s t (t.str "d.Symbol") ci ∧
      ∀ adj, rd.exec adj = .ok ([.admin (.bumpVersion old.id (maxVersion s (t.str "d.Symbol") + 1)), .createCoin t.sender ci], tags) := by
  simp only [runRecreateToken, guard_ready_iff] at h
  obtain ⟨-, -, hamount, -, -, h⟩ := h
  split at h
  · cases h
  · next old hold =>
    simp only [guard_ready_iff, withCom_ready_iff, ready_iff] at h
    obtain ⟨hown, com, -, -, rfl⟩ := h
    simp only [Bool.or_eq_true, decide_eq_true_eq, not_or, Int.not_lt] at hamount
    exact ⟨by simpa using hown, old, _, _, hold, ⟨rfl, rfl, rfl, rfl, hamount.2⟩, fun _ => rfl⟩

theorem edit_owner_spec (P : Params) (o : Oracle) (s : State) (t : TxIn) (price : Int) (rd : Ready)
    (h : runEditCoinOwner P o s t price = .ok (.ok rd)) :
    symbolOwner s (t.str "d.Symbol") = some t.sender ∧
    ∀ adj, rd.exec adj = .ok ([.admin (.setCoinOwner (t.str "d.Symbol") (t.hex "d.NewOwner"))], []) := by
  obtain ⟨hown, com, -, -, rfl⟩ := edit_owner_funds P o s t price rd h
  exact ⟨hown, fun _ => rfl⟩

theorem mint_spec (P : Params) (o : Oracle) (s : State) (t : TxIn) (price : Int) (rd : Ready)
    (h : runMintToken P o s t price = .ok (.ok rd)) :
    ∃ ci, getCoin s (t.nat "d.Coin") = some ci ∧ ci.mintable = true ∧ ci.version = 0 ∧ symbolOwner s ci.symbol = some t.sender ∧
      ci.volume + t.int "d.Value" ≤ ci.maxSupply ∧ t.nat "d.Coin" ≠ 0 ∧
      ∀ adj, rd.exec adj = .ok ([.mint t.sender (t.nat "d.Coin") (t.int "d.Value")], []) := by
  obtain ⟨com, ci, -, -, hci, hmax, hc0, hmint, hver, hown, rfl⟩ := mint_funds P o s t price rd h
  exact ⟨ci, hci, hmint, hver, hown, hmax, hc0, fun _ => rfl⟩

/-- The token of a new pool has no owner; with `ownerless_not_mintable` and `ownerless_stays_ownerless` below this is the last
    clause of C22: pool tokens are minted only by adding liquidity. -/
theorem create_pool_spec (P : Params) (o : Oracle) (s : State) (t : TxIn) (price : Int) (rd : Ready)
    (h : runCreatePool P o s t price = .ok (.ok rd)) :
    ∃ pl lp tags, lp.id = s.ncoins + 1 ∧ lp.owner = none ∧ lp.version = 0 ∧ lp.symbol = lpSymbol (s.pools.length + 1) ∧
      ∀ adj, rd.exec adj = .ok ([.poolCreate t.sender pl lp], tags) := by
  simp only [runCreatePool, guard_ready_iff, withCom_ready_iff, ready_iff] at h
  obtain ⟨-, -, -, -, com, -, -, -, -, -, rfl⟩ := h
  exact ⟨_, _, _, rfl, rfl, rfl, rfl, fun _ => rfl⟩

theorem ownerless_not_mintable (P : Params) (o : Oracle) (s : State) (t : TxIn) (price : Int) (rd : Ready) (ci : CoinInfo)
    (hci : getCoin s (t.nat "d.Coin") = some ci) (hno : symbolOwner s ci.symbol = none) :
    runMintToken P o s t price ≠ .ok (.ok rd) := by
  intro h
  obtain ⟨ci', hci', _, _, hown, _⟩ := mint_spec P o s t price rd h
  rw [hci] at hci'; cases hci'
  rw [hno] at hown; cases hown

theorem ownerless_stays_ownerless (P : Params) (o : Oracle) (s : State) (t : TxIn) (price : Int) (rd : Ready)
    (hno : symbolOwner s (t.str "d.Symbol") = none) :
    runEditCoinOwner P o s t price ≠ .ok (.ok rd) ∧ runRecreateCoin P o s t price ≠ .ok (.ok rd) ∧
    runRecreateToken P o s t price ≠ .ok (.ok rd) := by
  refine ⟨fun h => ?_, fun h => ?_, fun h => ?_⟩
  · have := (edit_owner_spec P o s t price rd h).1; rw [hno] at this; cases this
  · have := (recreate_coin_spec P o s t price rd h).1; rw [hno] at this; cases this
  · have := (recreate_token_spec P o s t price rd h).1; rw [hno] at this; cases this

/-! ### Version-0 ticker uniqueness -/

def coinKeys (s : State) : List (Nat × String × Nat) := s.coins.map (fun ci => (ci.id, ci.symbol, ci.version))

/-- "Active coin tickers are unique" (C22): the active coin of a ticker is the one with version 0. -/
def UniqueV0 (s : State) : Prop :=
  ∀ a ∈ coinKeys s, ∀ b ∈ coinKeys s, a.2.1 = b.2.1 → a.2.2 = 0 → b.2.2 = 0 → a.1 = b.1

theorem apply_coinKeys_neutral (s : State) (p : Prim) (h1 : p.newCoin = none) (h2 : ∀ c v, p ≠ .bumpVersion c v) :
    coinKeys (p.apply s) = coinKeys s := by
  have := apply_coins_map (fun ci => (ci.id, ci.symbol, ci.version)) s p (fun _ _ _ _ => rfl) (fun c v h => absurd h (h2 c v))
  rw [h1] at this
  exact this.trans (List.append_nil _)

/-- A new coin keeps the active tickers unique if no active coin has its ticker. -/
theorem uniqueV0_snoc (s : State) (ci : CoinInfo) (hu : UniqueV0 s) (hnew : ∀ k ∈ coinKeys s, k.2.1 = ci.symbol → k.2.2 ≠ 0) :
    UniqueV0 ((Prim.createCoin ci).apply s) := by
  intro a ha b hb hs ha0 hb0
  simp only [Prim.apply, coinKeys, List.map_append, List.map_cons, List.map_nil, List.mem_append, List.mem_singleton] at ha hb
  rcases ha with ha | ha <;> rcases hb with hb | hb
  · exact hu a ha b hb hs ha0 hb0
  · subst hb; exact absurd ha0 (hnew a ha hs)
  · subst ha; exact absurd hb0 (hnew b hb hs.symm)
  · subst ha; subst hb; rfl

theorem uniqueV0_create (s : State) (ci : CoinInfo) (hu : UniqueV0 s) (hnew : ∀ k ∈ coinKeys s, k.2.1 ≠ ci.symbol) :
    UniqueV0 ((Prim.createCoin ci).apply s) :=
  uniqueV0_snoc s ci hu fun k hk hs => absurd hs (hnew k hk)

theorem uniqueV0_recreate (s : State) (old ci : CoinInfo) (v : Nat) (hu : UniqueV0 s) (hn : (coinIds s).Nodup)
    (hold : old ∈ s.coins) (holdv : old.version = 0) (hsym : ci.symbol = old.symbol) (hv : v ≠ 0) :
    UniqueV0 ((Prim.createCoin ci).apply ((Prim.bumpVersion old.id v).apply s)) := by
  -- with distinct ids the bump hits `old` and no other coin
  have hkeys : coinKeys ((Prim.bumpVersion old.id v).apply s) =
      s.coins.map (fun c => (c.id, c.symbol, if c.id == old.id then v else c.version)) := by
    simp only [Prim.apply, coinKeys]
    rw [updFirst_eq_map s.coins old.id _ hn, List.map_map]
    apply List.map_congr_left
    intro c _
    simp only [Function.comp]
    split <;> rfl
  -- so the active coins after the bump are the active coins before it, without `old`
  have hsub : ∀ k ∈ coinKeys ((Prim.bumpVersion old.id v).apply s), k.2.2 = 0 → k ∈ coinKeys s ∧ k.1 ≠ old.id := by
    intro k hk h0
    rw [hkeys] at hk
    obtain ⟨x, hx, rfl⟩ := List.mem_map.mp hk
    by_cases hid : (x.id == old.id) = true
    · simp only [hid, if_true] at h0; exact absurd h0 hv
    · simp only [hid]
      exact ⟨List.mem_map.mpr ⟨x, hx, rfl⟩, by simpa using hid⟩
  apply uniqueV0_snoc
  · intro a ha b hb hs ha0 hb0
    exact hu a (hsub a ha ha0).1 b (hsub b hb hb0).1 hs ha0 hb0
  · intro k hk hs h0
    obtain ⟨hk', hne⟩ := hsub k hk h0
    exact hne (hu k hk' (old.id, old.symbol, old.version) (List.mem_map.mpr ⟨old, hold, rfl⟩) (hs.trans hsym) h0 holdv)

theorem create_keeps_unique (P : Params) (s : State) (sym : String) (ci : CoinInfo) (hu : UniqueV0 s)
    (hnew : symbolExists P s sym = false) (hsym : ci.symbol = sym) : UniqueV0 ((Prim.createCoin ci).apply s) := by
  apply uniqueV0_create s ci hu
  intro k hk hks
  simp only [coinKeys, List.mem_map] at hk
  obtain ⟨x, hx, rfl⟩ := hk
  simp only [symbolExists, Bool.or_eq_false_iff, List.any_eq_false] at hnew
  have := hnew.2 x hx
  simp only at hks
  rw [hsym] at hks
  simp [hks] at this

theorem recreate_keeps_unique (s : State) (sym : String) (old ci : CoinInfo) (hu : UniqueV0 s) (hn : (coinIds s).Nodup)
    (hold : coinBySymbolV0 s sym = some old) (hsym : ci.symbol = sym) :
    UniqueV0 ((Prim.createCoin ci).apply ((Prim.bumpVersion old.id (maxVersion s sym + 1)).apply s)) := by
  obtain ⟨hmem, hp⟩ := findFirst_mem _ _ _ hold
  simp only [Bool.and_eq_true, beq_iff_eq] at hp
  exact uniqueV0_recreate s old ci _ hu hn hmem hp.2 (hsym.trans hp.1.symm) (by omega)

/-! Non-vacuity (interpreter): CreateCoin in a state with 7 coins registers coin 8; a second CreateCoin of the same ticker is
    rejected (201); RecreateCoin by the owner bumps the old coin to version 1 and registers coin 9 with version 0. -/
def c22State : State :=
  { balances := [((1, 0), 100000000000000000000000000)], ncoins := 7,
    commission := [("create_coin", 100), ("create_ticker3", 1000), ("recreate_coin", 100), ("failed_tx", 1)] }
def c22Create : TxIn :=
  { dec := true, rawLen := 100, typ := 5, nonce := 1, chain := 2, gasPrice := 1, sigOk := true, sender := 1,
    f := [("d.Name", "41"), ("d.Symbol", "ABC"), ("d.InitialAmount", "1000000000000000000000"), ("d.InitialReserve", "10000000000000000000000"),
          ("d.ConstantReserveRatio", "50"), ("d.MaxSupply", "1000000000000000000000000")] }

#guard (match deliverTx {} (fun _ => none) c22State 10200001 c22Create with
  | .ok out => out.code == 0 && (match applyChecked c22State out.plan with
      | some s1 => s1.ncoins == 8 && (s1.coins.map (fun c => (c.id, c.symbol, c.version))) == [(8, "ABC", 0)] &&
          (match deliverTx {} (fun _ => none) s1 10200001 { c22Create with nonce := 2 } with | .ok o2 => o2.code == 201 | _ => false) &&
          (match deliverTx {} (fun _ => none) s1 10200001 { c22Create with nonce := 2, typ := 16 } with
            | .ok o3 => o3.code == 0 && (match applyChecked s1 o3.plan with
                | some s2 => (s2.coins.map (fun c => (c.id, c.symbol, c.version))) == [(8, "ABC", 1), (9, "ABC", 0)] && s2.ncoins == 9
                | none => false)
            | _ => false)
      | none => false)
  | .error _ => false)

end Minter
