import MinterModel.Rules
import Mathlib.Tactic.Linarith
import Mathlib.Tactic.Ring
/-
  C28: below the 10 billion cap every block mints the current price-derived reward; the reward is recomputed only on the first
  block of a stake period whose block time is between 12:00 and 14:59 and more than 3 hours after the previous update, as
  350·p^(1/4) BIP, `p` the BIP price in the BIP/USDT pool; a price change of −10 % or worse (rounded down) sets the validators'
  share to zero, from where it recovers by 10 BIP per update, the withheld part being burned; at the cap nothing is minted.
  `Rules.inWindow`, `beginReward`, `updatePrice`, `pctChange`, `blockEmission`, `priceCountCert` (MinterModel/Rules.lean) mirror
  BeginBlock / EndBlock (coreV2/minter/blockchain.go) and `AppDB.UpdatePriceFix` (coreV2/appdb/appdb.go).

  ORACLE: `pc` = `priceCount`, the integer part of the `big.Float` expression `Pow(r1/r0, 0.25)·350·1e18`.  The theorems hold for
  every value of `pc` (with `0 ≤ pc` where stated); that the value the node computes is the fourth-root expression is checked
  per evaluation by the decidable certificate `priceCountCert` (sound by `priceCountCert_sound`).
-/
namespace Minter
namespace Rules

/-! ### What an update stores and returns -/

/-- An update that answers did not hit the panics on the new reserves. -/
theorem updatePrice_some (st : RewardState) (t r0 r1 pc : Int) (x : RewardState × Int × Int)
    (h : updatePrice st t r0 r1 pc = some x) : r0 ≠ 0 ∧ 0 ≤ r1 * r0 ∧ updatePriceCore st t r0 r1 pc = some x := by
  unfold updatePrice at h
  split_ifs at h with h0 h1
  exact ⟨h0, by omega, h⟩

theorem updatePrice_eq_core (st : RewardState) (t r0 r1 pc : Int) (hr : r0 ≠ 0) (hs : 0 ≤ r1 * r0) :
    updatePrice st t r0 r1 pc = updatePriceCore st t r0 r1 pc := by
  rw [updatePrice, if_neg hr, if_neg (Int.not_lt.mpr hs)]

/-- The three answers of an update: the price-derived level, zero after a drop, ten more BIP of an unfinished recovery. -/
theorem updatePrice_cases (st : RewardState) (t r0 r1 pc : Int) (st' : RewardState) (rw sf : Int)
    (h : updatePrice st t r0 r1 pc = some (st', rw, sf)) :
    (st'.t = some t ∧ st'.r0 = r0 ∧ st'.r1 = r1 ∧ sf = pc ∧ st'.last = rw) ∧
    ((rw = pc ∧ st'.off = false) ∨ (rw = 0 ∧ st'.off = true) ∨
      (rw = st.last + tenBip ∧ rw < pc ∧ st'.off = true)) := by
  have h := (updatePrice_some _ _ _ _ _ _ h).2.2
  unfold updatePriceCore at h
  split at h
  · cases h; exact ⟨⟨rfl, rfl, rfl, rfl, rfl⟩, .inl ⟨rfl, rfl⟩⟩
  · split at h
    · cases h
    · dsimp only at h
      split_ifs at h with hdrop hoff hfull
      · cases h; exact ⟨⟨rfl, rfl, rfl, rfl, rfl⟩, .inr (.inl ⟨rfl, rfl⟩)⟩
      · cases h; exact ⟨⟨rfl, rfl, rfl, rfl, rfl⟩, .inl ⟨rfl, rfl⟩⟩
      · cases h; exact ⟨⟨rfl, rfl, rfl, rfl, rfl⟩, .inr (.inr ⟨rfl, by omega, rfl⟩)⟩
      · cases h; exact ⟨⟨rfl, rfl, rfl, rfl, rfl⟩, .inl ⟨rfl, rfl⟩⟩

theorem updatePrice_stamp (st : RewardState) (t r0 r1 pc : Int) (st' : RewardState) (rw sf : Int)
    (h : updatePrice st t r0 r1 pc = some (st', rw, sf)) :
    st'.t = some t ∧ st'.r0 = r0 ∧ st'.r1 = r1 ∧ sf = pc ∧ st'.last = rw :=
  (updatePrice_cases _ _ _ _ _ _ _ _ h).1

theorem first_update (st : RewardState) (hz : st.t = none) (t r0 r1 pc : Int) (hr : r0 ≠ 0) (hs : 0 ≤ r1 * r0) :
    updatePrice st t r0 r1 pc = some ({ t := some t, r0 := r0, r1 := r1, last := pc, off := false }, pc, pc) := by
  rw [updatePrice_eq_core _ _ _ _ _ hr hs, updatePriceCore, hz]

theorem updatePrice_of_pct {st : RewardState} {l : Int} (hl : st.t = some l) (t : Int) {r0 r1 : Int} (pc : Int) {d : Int}
    (hr : r0 ≠ 0) (hs : 0 ≤ r1 * r0) (hd : pctChange st.r0 st.r1 r0 r1 = some d) :
    updatePrice st t r0 r1 pc =
      if d ≤ -10 then some ({ t := some t, r0 := r0, r1 := r1, last := 0, off := true }, 0, pc)
      else if st.off = true ∧ st.last < pc then
        if pc - (st.last + tenBip) ≤ 0 then some ({ t := some t, r0 := r0, r1 := r1, last := pc, off := false }, pc, pc)
        else some ({ t := some t, r0 := r0, r1 := r1, last := st.last + tenBip, off := true }, st.last + tenBip, pc)
      else some ({ t := some t, r0 := r0, r1 := r1, last := pc, off := false }, pc, pc) := by
  rw [updatePrice_eq_core _ _ _ _ _ hr hs, updatePriceCore, hl]
  simp only [hd, Bool.and_eq_true, decide_eq_true_eq]

/-! ### The percentage and the −10 rule -/

theorem floorDiv_le_iff (n d k : Int) (hd : 0 < d) : floorDiv n d ≤ k ↔ n < (k + 1) * d := by
  rw [floorDiv, if_pos hd, ← Int.lt_add_one_iff, Int.ediv_lt_iff_lt_mul hd]

/-- "−10 or worse after rounding down" is every change worse than −9 %: the new price is below 91 % of the old one. -/
theorem drop_threshold (R0 R1 r0 r1 : Int) (hR0 : 0 < R0) (hR1 : 0 < R1) (hr0 : 0 < r0) :
    ∃ d, pctChange R0 R1 r0 r1 = some d ∧ (d ≤ -10 ↔ 100 * (r1 * R0) < 91 * (R1 * r0)) := by
  refine ⟨_, if_neg (by omega), ?_⟩
  rw [floorDiv_le_iff _ _ _ (Int.mul_pos hR1 hr0)]
  -- linear in the products `r1 * R0` and `R1 * r0`
  omega

/-- `d ≤ 100·(new − old)/old < d + 1`, cross-multiplied. -/
theorem pctChange_floor (R0 R1 r0 r1 d : Int) (hR1 : 0 < R1) (hr0 : 0 < r0)
    (h : pctChange R0 R1 r0 r1 = some d) :
    d * (R1 * r0) ≤ 100 * (r1 * R0 - R1 * r0) ∧ 100 * (r1 * R0 - R1 * r0) < (d + 1) * (R1 * r0) := by
  have hD : 0 < R1 * r0 := Int.mul_pos hR1 hr0
  unfold pctChange at h
  split at h
  · cases h
  · cases h
    rw [floorDiv, if_pos hD]
    exact ⟨Int.ediv_mul_le _ (ne_of_gt hD), Int.lt_ediv_add_one_mul_self _ hD⟩

/-- The "validators' share of the reward drops to zero" of C28; the safe reward stays at the price-derived level. -/
theorem drop_rule (st : RewardState) (l : Int) (hl : st.t = some l) (t r0 r1 pc d : Int) (hr : r0 ≠ 0) (hs : 0 ≤ r1 * r0)
    (hd : pctChange st.r0 st.r1 r0 r1 = some d) (hdrop : d ≤ -10) :
    updatePrice st t r0 r1 pc = some ({ t := some t, r0 := r0, r1 := r1, last := 0, off := true }, 0, pc) := by
  rw [updatePrice_of_pct hl t pc hr hs hd, if_pos hdrop]

/-- The "recovers by 10 BIP per update up to the price-derived level" of C28. -/
theorem recovery (st : RewardState) (l : Int) (hl : st.t = some l) (t r0 r1 pc d : Int) (hr : r0 ≠ 0) (hs : 0 ≤ r1 * r0)
    (hd : pctChange st.r0 st.r1 r0 r1 = some d) (hnd : -10 < d) (hoff : st.off = true) (hlt : st.last < pc) :
    ∃ st' rw, updatePrice st t r0 r1 pc = some (st', rw, pc) ∧
      rw = min (st.last + tenBip) pc ∧ rw ≤ pc ∧ st'.last = rw ∧ (st'.off = true ↔ st.last + tenBip < pc) := by
  rw [updatePrice_of_pct hl t pc hr hs hd, if_neg (Int.not_le.mpr hnd), if_pos ⟨hoff, hlt⟩]
  split
  · exact ⟨_, _, rfl, (Int.min_eq_right (by omega)).symm, Int.le_refl _, rfl, fun h' => (nomatch h'), fun h' => by omega⟩
  · exact ⟨_, _, rfl, (Int.min_eq_left (by omega)).symm, by omega, rfl, fun _ => by omega, fun _ => rfl⟩

theorem full_reward (st : RewardState) (l : Int) (hl : st.t = some l) (t r0 r1 pc d : Int) (hr : r0 ≠ 0) (hs : 0 ≤ r1 * r0)
    (hd : pctChange st.r0 st.r1 r0 r1 = some d) (hnd : -10 < d) (hno : st.off = false ∨ pc ≤ st.last) :
    updatePrice st t r0 r1 pc = some ({ t := some t, r0 := r0, r1 := r1, last := pc, off := false }, pc, pc) := by
  rw [updatePrice_of_pct hl t pc hr hs hd, if_neg (Int.not_le.mpr hnd), if_neg]
  rintro ⟨hoff, hlt⟩
  rcases hno with h | h
  · rw [h] at hoff; cases hoff
  · omega

/-- What excludes the `overMint` term of `EndDefect` (Props/C01Block.lean) and gives `PayOK.calc3` (Props/C19.lean). -/
theorem reward_le_safeReward (st : RewardState) (t r0 r1 pc : Int) (st' : RewardState) (rw sf : Int)
    (hpc : 0 ≤ pc) (h : updatePrice st t r0 r1 pc = some (st', rw, sf)) : rw ≤ sf := by
  obtain ⟨⟨-, -, -, rfl, -⟩, h | h | h⟩ := updatePrice_cases _ _ _ _ _ _ _ _ h <;> omega

theorem reward_nonneg (st : RewardState) (t r0 r1 pc : Int) (st' : RewardState) (rw sf : Int)
    (hpc : 0 ≤ pc) (hlast : 0 ≤ st.last) (h : updatePrice st t r0 r1 pc = some (st', rw, sf)) :
    0 ≤ rw ∧ 0 ≤ st'.last := by
  obtain ⟨⟨-, -, -, -, hl⟩, h⟩ := updatePrice_cases _ _ _ _ _ _ _ _ h
  rw [hl, and_self]
  unfold tenBip at h
  omega

theorem off_means_below (st : RewardState) (t r0 r1 pc : Int) (st' : RewardState) (rw sf : Int)
    (hpc : 0 < pc) (h : updatePrice st t r0 r1 pc = some (st', rw, sf)) (hoff : st'.off = true) : rw < sf := by
  obtain ⟨⟨-, -, -, rfl, -⟩, h | h | h⟩ := updatePrice_cases _ _ _ _ _ _ _ _ h
  · rw [h.2] at hoff; cases hoff
  · omega
  · omega

/-! ### The window -/

theorem inWindow_iff (height period : Nat) (timeNs : Int) (last : Option Int) :
    inWindow height period timeNs last = true ↔
      height % period = 1 ∧
        (last = none ∨ ∃ l, last = some l ∧ 12 ≤ hourOf timeNs ∧ hourOf timeNs ≤ 14 ∧ timeNs - l > threeHoursNs) := by
  unfold inWindow
  cases last with
  | none => simp
  | some l => simp [and_assoc]

theorem ediv_emod_of_lt {q r d : Int} (h0 : 0 ≤ r) (h1 : r < d) : (q * d + r) / d = q ∧ (q * d + r) % d = r :=
  (Int.ediv_emod_unique (Int.lt_of_le_of_lt h0 h1)).mpr ⟨by rw [Int.mul_comm, Int.add_comm], h0, h1⟩

theorem hourOf_spec (day hour s ns : Int) (hh : 0 ≤ hour ∧ hour < 24) (hs : 0 ≤ s ∧ s < 3600) (hn : 0 ≤ ns ∧ ns < 1000000000) :
    hourOf (((day * 24 + hour) * 3600 + s) * 1000000000 + ns) = hour := by
  have hd : (day * 24 + hour) * 3600 + s = day * 86400 + (hour * 3600 + s) := by ring
  rw [hourOf, (ediv_emod_of_lt hn.1 hn.2).1, hd, (ediv_emod_of_lt (by omega) (by omega)).2, (ediv_emod_of_lt hs.1 hs.2).1]

/-- The "recomputed only on …" of C28, provided the BIP/USDT pool exists.  `h`: stated for a run that does not panic; a panic is
    a C07 matter. -/
theorem update_only_in_window (emission cap : Int) (height period : Nat) (timeNs : Int) (poolExists : Bool) (r0 r1 pc : Int)
    (st : RewardState) (app : AppReward) (st' : RewardState) (app' : AppReward)
    (h : beginReward emission cap height period timeNs poolExists r0 r1 pc st app = some (st', app')) :
    st' ≠ st ↔ (emission < cap ∧ inWindow height period timeNs st.t = true ∧ poolExists = true) := by
  unfold beginReward at h
  split_ifs at h with hcap hw
  · have hw' := Bool.and_eq_true_iff.mp hw
    split at h
    · cases h
    · next hu =>
      cases h
      refine ⟨fun _ => ⟨hcap, hw'⟩, fun _ heq => ?_⟩
      -- an update stamps the block time, and inside the window that is more than 3 h after the stored one
      have hst := (updatePrice_stamp _ _ _ _ _ _ _ _ hu).1
      rw [heq] at hst
      obtain ⟨-, hn | ⟨l, hl, -, -, hgt⟩⟩ := (inWindow_iff ..).mp hw'.1
      · cases hn.symm.trans hst
      · cases hl.symm.trans hst
        rw [Int.sub_self] at hgt
        exact absurd hgt (by decide)
  · cases h
    exact ⟨fun hne => absurd rfl hne, fun ⟨_, h1, h2⟩ => (hw (by rw [h1, h2]; rfl)).elim⟩
  · cases h
    exact ⟨fun hne => absurd rfl hne, fun ⟨h1, _⟩ => (hcap h1).elim⟩

theorem no_update_keeps_reward (emission cap : Int) (height period : Nat) (timeNs : Int) (poolExists : Bool) (r0 r1 pc : Int)
    (st : RewardState) (app : AppReward) (hcap : emission < cap)
    (hw : ¬ (inWindow height period timeNs st.t = true ∧ poolExists = true)) :
    beginReward emission cap height period timeNs poolExists r0 r1 pc st app = some (st, app) := by
  rw [beginReward, if_pos hcap, if_neg fun h => hw (Bool.and_eq_true_iff.mp h)]

/-- `hrw`, `hsf`: `App.SetReward` stores magnitudes and is skipped when the old and the new safe reward are both zero. -/
theorem window_sets_reward (emission cap : Int) (height period : Nat) (timeNs : Int) (r0 r1 pc : Int)
    (st : RewardState) (app : AppReward) (st' : RewardState) (rw sf : Int) (hcap : emission < cap)
    (hw : inWindow height period timeNs st.t = true) (hu : updatePrice st timeNs r0 r1 pc = some (st', rw, sf))
    (hrw : 0 ≤ rw) (hsf : 0 < sf) :
    beginReward emission cap height period timeNs true r0 r1 pc st app = some (st', { reward := rw, safe := sf }) := by
  rw [beginReward, if_pos hcap, hw, if_pos (Bool.and_self true), hu]
  simp only [setReward]
  rw [if_neg (by omega), Int.ofNat_eq_natCast, Int.ofNat_eq_natCast, Int.natAbs_of_nonneg hrw,
    Int.natAbs_of_nonneg (Int.le_of_lt hsf)]

/-! ### Minting -/

theorem blockEmission_below (emission cap reward safe : Int) (hcap : emission < cap) (hle : reward ≤ safe) :
    blockEmission emission cap reward safe =
      { toValidators := reward, toZero := safe - reward, minted := safe, emission := emission + safe } := by
  have hz : (if 0 < safe - reward then safe - reward else 0) = safe - reward := by split <;> omega
  rw [blockEmission, if_pos hcap]
  simp only [hz]
  rw [show reward + (safe - reward) = safe by omega]

theorem withheld_burned (emission cap reward safe : Int) (hcap : emission < cap) (hle : reward ≤ safe) :
    (blockEmission emission cap reward safe).minted = safe ∧
    (blockEmission emission cap reward safe).toValidators = reward ∧
    (blockEmission emission cap reward safe).toZero = safe - reward ∧
    (blockEmission emission cap reward safe).emission = emission + safe ∧
    (blockEmission emission cap reward safe).toValidators + (blockEmission emission cap reward safe).toZero =
      (blockEmission emission cap reward safe).minted := by
  rw [blockEmission_below _ _ _ _ hcap hle]
  exact ⟨rfl, rfl, rfl, rfl, show reward + (safe - reward) = safe by omega⟩

theorem emission_tracks_minted (emission cap reward safe : Int) (hcap : emission < cap) (hle : reward ≤ safe) :
    (blockEmission emission cap reward safe).emission = emission + (blockEmission emission cap reward safe).minted := by
  rw [blockEmission_below _ _ _ _ hcap hle]

theorem cap_stops (emission cap reward safe : Int) (hcap : cap ≤ emission) :
    blockEmission emission cap reward safe = { toValidators := 0, toZero := 0, minted := 0, emission := emission } :=
  if_neg (Int.not_lt.mpr hcap)

theorem cap_resets_reward (emission cap : Int) (height period : Nat) (timeNs : Int) (poolExists : Bool) (r0 r1 pc : Int)
    (st : RewardState) (app : AppReward) (hcap : cap ≤ emission) (happ : 0 ≤ app.reward ∧ (app.safe = 0 → app.reward = 0)) :
    beginReward emission cap height period timeNs poolExists r0 r1 pc st app = some (st, { reward := 0, safe := 0 }) := by
  rw [beginReward, if_neg (Int.not_lt.mpr hcap), setReward]
  split
  · next hs =>
    -- `SetReward` is skipped: the ledger already holds (0, 0)
    obtain ⟨r, s⟩ := app
    cases hs.1
    cases happ.2 rfl
    rfl
  · rfl

/-- The cap can be overshot, by less than the last block's safe reward. -/
theorem emission_overshoot (emission cap reward safe : Int) (hcap : emission < cap) :
    (blockEmission emission cap reward safe).emission < cap + safe := by
  rw [blockEmission, if_pos hcap]
  exact Int.add_lt_add_right hcap safe

/-! ### The oracle value and its certificate -/

theorem certTol_nonneg {v : Int} (hv : 0 ≤ v) : 0 ≤ certTol v :=
  Int.add_nonneg (Int.ediv_nonneg hv (by decide)) (by decide)

/-- `c` is `K350⁴·r1` at the uses. -/
theorem lt_of_pow4_mul_le_lt {a b r0 c : Int} (hr0 : 0 < r0) (hb : 0 ≤ b) (h1 : a ^ 4 * r0 ≤ c) (h2 : c < b ^ 4 * r0) : a < b :=
  lt_of_pow_lt_pow_left₀ 4 hb (Int.lt_of_mul_lt_mul_right (Int.lt_of_le_of_lt h1 h2) (Int.le_of_lt hr0))

theorem pow4_mul_le_of_le {a b r0 : Int} (hr0 : 0 < r0) (ha : 0 ≤ a) (hab : a ≤ b) : a ^ 4 * r0 ≤ b ^ 4 * r0 :=
  Int.mul_le_mul_of_nonneg_right (pow_le_pow_left₀ ha hab 4) (Int.le_of_lt hr0)

/-- If `priceCountCert r0 r1 v` holds then the exact value — the integer `w` with
    `w⁴·r0 ≤ (350·10¹⁸)⁴·r1 < (w+1)⁴·r0`, i.e. `w = ⌊350·10¹⁸·(r1/r0)^(1/4)⌋` — is within `certTol v + 1` of `v`:
    `v − tol − 1 ≤ w ≤ v + tol`  (tol = ⌊v/2⁵⁰⌋ + 2). -/
theorem priceCountCert_sound (r0 r1 v w : Int) (hc : priceCountCert r0 r1 v = true) (hw : 0 ≤ w)
    (hlo : w ^ 4 * r0 ≤ K350 ^ 4 * r1) (hhi : K350 ^ 4 * r1 < (w + 1) ^ 4 * r0) :
    0 < r0 ∧ 0 ≤ r1 ∧ v - certTol v - 1 ≤ w ∧ w ≤ v + certTol v := by
  unfold priceCountCert at hc
  simp only [Bool.and_eq_true, decide_eq_true_eq] at hc
  obtain ⟨⟨⟨⟨hr0, hr1⟩, hv⟩, hl⟩, hh⟩ := hc
  have htol := certTol_nonneg hv
  -- w⁴·r0 ≤ K⁴·r1 < hi⁴·r0  ⇒  w < hi
  refine ⟨hr0, hr1, ?_, Int.le_of_lt_add_one (lt_of_pow4_mul_le_lt hr0 (by omega) hlo hh)⟩
  -- lo⁴·r0 ≤ K⁴·r1 < (w+1)⁴·r0  ⇒  lo < w+1
  split at hl
  · omega
  · exact Int.sub_right_le_of_le_add (Int.le_of_lt (lt_of_pow4_mul_le_lt hr0 (by omega) hl hhi))

theorem priceCountCert_exact (r0 r1 w : Int) (hr0 : 0 < r0) (hr1 : 0 ≤ r1) (hw : 0 ≤ w)
    (hlo : w ^ 4 * r0 ≤ K350 ^ 4 * r1) (hhi : K350 ^ 4 * r1 < (w + 1) ^ 4 * r0) :
    priceCountCert r0 r1 w = true := by
  have htol := certTol_nonneg hw
  unfold priceCountCert
  simp only [Bool.and_eq_true, decide_eq_true_eq]
  refine ⟨⟨⟨⟨hr0, hr1⟩, hw⟩, ?_⟩, Int.lt_of_lt_of_le hhi (pow4_mul_le_of_le hr0 (by omega) (by omega))⟩
  split
  · exact Int.le_trans (pow4_mul_le_of_le hr0 (Int.le_refl 0) hw) hlo
  · exact Int.le_trans (pow4_mul_le_of_le hr0 (by omega) (by omega)) hlo

/-! ### Non-vacuity -/

-- 1 BIP = 1 USDT would give 350 BIP; a price of 1/10000 gives 35 BIP (exact fourth root).
example : priceCountCert 10000 1 35000000000000000000 = true := by decide +kernel
example : priceCountCert 1 1 350000000000000000000 = true ∧ priceCountCert 1 1 351000000000000000000 = false := by decide +kernel

-- −10 % exactly, −9.99 %, −9 % exactly, −10.01 %: everything below −9 % is "−10 or worse" after rounding down
example : pctChange 1000 100 1000 90 = some (-10) ∧ pctChange 100000 10000 100000 9001 = some (-10) ∧
    pctChange 1000 100 1000 91 = some (-9) ∧ pctChange 100000 10000 100000 8999 = some (-11) ∧
    pctChange 1000 100 1000 100 = some 0 ∧ pctChange 1000 100 0 100 = none := by decide +kernel

def st0 : RewardState := { t := some 0, r0 := 1000, r1 := 100, last := 70000000000000000000, off := false }

-- a −10 % move drops the reward to zero …
example : updatePrice st0 5 1000 90 66000000000000000000 =
    some ({ t := some 5, r0 := 1000, r1 := 90, last := 0, off := true }, 0, 66000000000000000000) := by decide +kernel
-- … then it recovers by 10 BIP per update …
example : updatePrice { t := some 5, r0 := 1000, r1 := 90, last := 0, off := true } 9 1000 90 66000000000000000000 =
    some ({ t := some 9, r0 := 1000, r1 := 90, last := 10000000000000000000, off := true }, 10000000000000000000, 66000000000000000000) := by decide +kernel
-- … up to the level, where `off` is cleared
example : updatePrice { t := some 5, r0 := 1000, r1 := 90, last := 60000000000000000000, off := true } 9 1000 90 66000000000000000000 =
    some ({ t := some 9, r0 := 1000, r1 := 90, last := 66000000000000000000, off := false }, 66000000000000000000, 66000000000000000000) := by decide +kernel

-- 2024-01-10 12:00:00 UTC = 1704888000 s: hour 12; first block of a period of 12; last update 4 h earlier
example : hourOf 1704888000000000000 = 12 ∧ inWindow 13 12 1704888000000000000 (some 1704873600000000000) = true ∧
    inWindow 14 12 1704888000000000000 (some 1704873600000000000) = false ∧
    inWindow 13 12 1704888000000000000 (some 1704880800000000000) = false ∧
    inWindow 13 12 1704898800000000000 (some 1704873600000000000) = false := by decide +kernel

example : blockEmission 5 100 30 70 = { toValidators := 30, toZero := 40, minted := 70, emission := 75 } ∧
    blockEmission 100 100 30 70 = { toValidators := 0, toZero := 0, minted := 0, emission := 100 } := by decide +kernel

end Rules
end Minter
