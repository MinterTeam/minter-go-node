import MinterModel.Tx
import MinterProofs.TxLemmas
import MinterProofs.Props.C26
/-
  C21 (a check pays out at most once, only to the holder of its password): the validation of `runRedeemCheck` inverted into
  the record `RedeemOk`, and the set of used hashes, which no primitive shrinks.

  The cryptographic facts are oracle values carried on the transaction (`k.*`, computed by the node's own functions in
  harness/decode.go): the decoded check fields, the issuer recovered from the check's signature, the public key recovered from
  the check's `Lock` (`LockPubKey`), the public key recovered from the proof over `keccak(rlp[redeemer])`, and the check hash.
-/
namespace Minter

/-- `notExpired`: redeem_check.go rejects `DueBlock < currentBlock` only, so the due block itself is still valid, where the
    property says "before its due block". -/
structure RedeemOk (P : Params) (s : State) (block : Nat) (t : TxIn) (k : CheckIn) (issuer : Addr) (com : Com) : Prop where
  gasPrice : t.gasPrice = 1
  decodes : t.check = some k
  chain : k.chain = P.chain
  nonceLen : k.nonceLen ≤ 16
  issuerRecovers : k.issuer = some issuer
  coin : coinExists s k.coin = true
  gasCoinExists : coinExists s k.gasCoin = true
  gasCoin : t.gasCoin = k.gasCoin
  notExpired : block ≤ k.due
  notUsed : s.usedChecks.contains k.hash = false
  lockRecovers : k.lock ≠ "bad" ∧ k.lock ≠ "nil" ∧ k.lock ≠ ""
  proofMatchesLock : k.lock = k.proofPub
  funds : (k.coin = k.gasCoin → k.value + com.commission ≤ balanceOf s issuer k.coin) ∧
          (k.coin ≠ k.gasCoin → k.value ≤ balanceOf s issuer k.coin ∧ com.commission ≤ balanceOf s issuer k.gasCoin)

theorem redeem_conditions (P : Params) (o : Oracle) (s : State) (block : Nat) (t : TxIn) (price : Int) (rd : Ready)
    (h : runRedeemCheck P o s block t price = .ok (.ok rd)) :
    ∃ k issuer com, RedeemOk P s block t k issuer com ∧ calcCommission P o s t.gasCoin price = .ok (.ok com) ∧
      rd.payer = issuer ∧ rd.coin = t.gasCoin ∧ rd.com = com ∧ rd.minOut = 0 ∧
      ∀ adj, rd.exec adj = .ok ([.admin (.useCheck k.hash), .transfer issuer t.sender k.coin k.value], []) := by
  simp only [runRedeemCheck, guard_ready_iff] at h
  obtain ⟨-, h2, h⟩ := h
  split at h
  · cases h
  next k hk =>
  simp only [guard_ready_iff] at h
  obtain ⟨h3, h4, h⟩ := h
  split at h
  · cases h
  next issuer hiss =>
  simp only [guard_ready_iff, withCom_ready_iff, Bool.or_eq_true, beq_iff_eq, not_or, Bool.and_eq_true, bne_iff_ne, ne_eq,
    decide_eq_true_eq, not_and, Int.not_lt, Bool.not_eq_true', Bool.not_eq_true, Bool.not_eq_false, Decidable.not_not,
    Nat.not_lt] at h h2 h3 h4
  obtain ⟨h5, h6, h7, h8, h9, h10, -, h12, com, hcom, hf1, hf2, hf3, h⟩ := h
  cases h
  exact ⟨k, issuer, com,
    { gasPrice := h2, decodes := hk, chain := h3, nonceLen := h4, issuerRecovers := hiss, coin := h5, gasCoinExists := h6,
      gasCoin := h7, notExpired := h8, notUsed := h9, lockRecovers := ⟨h10.1.1, h10.1.2, h10.2⟩, proofMatchesLock := h12,
      funds := ⟨hf1, fun e => ⟨hf2 e, hf3 e⟩⟩ },
    hcom, rfl, rfl, rfl, rfl, fun _ => rfl⟩

/-- The commission is paid by the issuer of the check, in the check's gas coin, not by the redeemer who sends the transaction. -/
theorem redeem_effect (P : Params) (o : Oracle) (s : State) (b : Nat) (t : TxIn) (out : Outcome)
    (ht : t.typ = 9) (h : deliverTx P o s b t = .ok out) (h0 : out.code = 0) :
    ∃ k issuer com paid price, RedeemOk P s b t k issuer com ∧
      basePrice s t = .ok (.ok price) ∧ calcCommission P o s t.gasCoin price = .ok (.ok com) ∧
      payCommission s issuer t.gasCoin com 0 = .ok paid ∧ paid.amount = com.commission ∧
      out.moves = paid.moves ++ [.admin (.useCheck k.hash), .transfer issuer t.sender k.coin k.value] ++ [.admin (.setNonce t.sender t.nonce)] := by
  obtain ⟨price, rd, paid, body, tags, hb, hr, hpay, he, hm⟩ := deliver_accepted_moves P o s b t out h h0 (by omega) (by omega)
  rw [runData, ht] at hr
  obtain ⟨k, issuer, com, hok, hcom, hp, hc, hcm, hmin, hexec⟩ := redeem_conditions P o s b t price rd hr
  rw [hp, hc, hcm, hmin] at hpay
  cases (hexec _).symm.trans he
  exact ⟨k, issuer, com, paid, price, hok, hb, hcom, hpay, (payCommission_shape s issuer t.gasCoin com 0 paid hpay).1, hm⟩

theorem used_mono (s : State) (p : Prim) (hash : String) (h : hash ∈ s.usedChecks) : hash ∈ (p.apply s).usedChecks := by
  cases p with
  | useCheck _ => exact List.mem_cons_of_mem _ h
  | _ => exact h

theorem checked_used_mono (s s' : State) (ps : List Prim) (hash : String) (h : hash ∈ s.usedChecks)
    (ha : applyChecked s ps = some s') : hash ∈ s'.usedChecks := by
  induction ps generalizing s with
  | nil => cases ha; exact h
  | cons p t ih => exact ih _ (used_mono s p hash h) (applyChecked_cons _ _ _ _ ha).2

theorem reach_used_mono (P : Params) (o : Oracle) (s s' : State) (hr : Reach P o s s') (hash : String) (h : hash ∈ s.usedChecks) :
    hash ∈ s'.usedChecks := by
  induction hr with
  | refl s => exact h
  | step s s1 s2 b t out _ ha _ ih => exact ih (checked_used_mono s s1 out.plan hash h ha)

theorem redeem_marks_used (P : Params) (o : Oracle) (s s' : State) (b : Nat) (t : TxIn) (out : Outcome)
    (ht : t.typ = 9) (h : deliverTx P o s b t = .ok out) (h0 : out.code = 0) (ha : applyChecked s out.plan = some s') :
    ∃ k, t.check = some k ∧ k.hash ∈ s'.usedChecks := by
  obtain ⟨k, issuer, com, paid, price, hok, -, -, -, -, hm⟩ := redeem_effect P o s b t out ht h h0
  refine ⟨k, hok.decodes, ?_⟩
  -- the plan: the commission, then `useCheck`, then primitives that only add to the used set
  rw [Outcome.plan, hm, List.append_assoc, planOf, List.flatMap_append, applyChecked_append] at ha
  obtain ⟨s1, -, h2⟩ := Option.bind_eq_some_iff.mp ha
  exact checked_used_mono _ s' _ k.hash List.mem_cons_self (applyChecked_cons _ _ _ _ h2).2

theorem redeem_rejected_when_used (P : Params) (o : Oracle) (s : State) (b : Nat) (t : TxIn) (out : Outcome) (k : CheckIn)
    (ht : t.typ = 9) (hk : t.check = some k) (hu : k.hash ∈ s.usedChecks) (h : deliverTx P o s b t = .ok out) : out.code ≠ 0 := by
  intro h0
  obtain ⟨k', _, _, _, _, hok, -⟩ := redeem_effect P o s b t out ht h h0
  cases hk.symm.trans hok.decodes
  exact absurd (List.contains_iff_mem.mpr hu) (Bool.eq_false_iff.mp hok.notUsed)

theorem redeem_once (P : Params) (o : Oracle) (s s1 s2 : State) (b b' : Nat) (t t' : TxIn) (out out' : Outcome) (k k' : CheckIn)
    (ht : t.typ = 9) (h : deliverTx P o s b t = .ok out) (h0 : out.code = 0) (ha : applyChecked s out.plan = some s1)
    (hk : t.check = some k) (hr : Reach P o s1 s2)
    (ht' : t'.typ = 9) (hk' : t'.check = some k') (hsame : k'.hash = k.hash)
    (h' : deliverTx P o s2 b' t' = .ok out') : out'.code ≠ 0 := by
  obtain ⟨k0, hk0, hused⟩ := redeem_marks_used P o s s1 b t out ht h h0 ha
  cases hk.symm.trans hk0
  exact redeem_rejected_when_used P o s2 b' t' out' k' ht' hk' (hsame ▸ reach_used_mono P o s1 s2 hr k.hash hused) h'

/-! Non-vacuity (evaluated by the Lean interpreter: decimal parsing does not reduce in the kernel): a check for 200 pips of the base
    coin issued by address 2 is redeemed by address 1 — accepted, the issuer pays value + commission, the redeemer receives the value —
    and a second redemption of the same check by address 3 is rejected with `CheckUsed` (503). -/
def c21State : State :=
  { balances := [((2, 0), 1000000000000000000000), ((3, 0), 5)],
    commission := [("redeem_check", 10000000000000000), ("failed_tx", 10000000000000000)] }
def c21Fields : List (String × String) :=
  [("d.RawCheck", "f8"), ("k.dec", "1"), ("k.chain", "2"), ("k.noncelen", "4"), ("k.due", "10200005"), ("k.coin", "0"), ("k.value", "200"),
   ("k.gascoin", "0"), ("k.from", "02"), ("k.lock", "04aa"), ("k.proofpub", "04aa"), ("k.hash", "beef")]
def c21Tx : TxIn :=
  { dec := true, rawLen := 200, typ := 9, nonce := 1, chain := 2, gasPrice := 1, sigOk := true, sender := 1, f := c21Fields }
def c21Tx' : TxIn := { c21Tx with sender := 3 }

#guard (match deliverTx {} (fun _ => none) c21State 10200005 c21Tx with
    | .ok out => out.code == 0 && (match applyChecked c21State out.plan with
        | some s1 => balanceOf s1 1 0 == 200 && balanceOf s1 2 0 == 1000000000000000000000 - 200 - 10000000000000000 &&
            s1.usedChecks.contains "beef" &&
            (match deliverTx {} (fun _ => none) s1 10200005 c21Tx' with | .ok o2 => o2.code == 503 | .error _ => false)
        | none => false)
    | .error _ => false)

-- the due block itself is still valid, the block after it is not
#guard (match deliverTx {} (fun _ => none) c21State 10200006 c21Tx with | .ok out => out.code == 502 | .error _ => false)

end Minter
