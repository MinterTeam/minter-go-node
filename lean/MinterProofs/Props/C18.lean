import MinterProofs.Begin
/-
  C18 (misbehaviour is punished exactly and only once), about the BeginBlock model (MinterModel/BeginBlock.lean) of the code
  with the punish-once fix /repo ecfb9df. The punishment statements are read off `byzStep_cases` (Begin.lean); the three about one absence
  vote unfold `setAbsent`, whose case lemma `setAbsent_cases` keeps only what the frame lemmas need. "Only once" rests on `skip_is_stable`: of what `byzTarget` reads a punishment changes only
  a drop mark and stake values, so whoever is no target before it is none after it. `absent_threshold` is about one vote; no
  theorem composes it over the vote list.
  The model is compared with the node's state after every BeginBlock of every campaign (`beginCompare`, run by the driver), its
  kernels (`absent`, `present`, `grace`, `jailed`) with the real functions by the `beginq` mode.
-/
namespace Minter

/-! ### Absence: more than 12 of 24 -/

theorem absent_threshold (P : Params) (h : Nat) (grace : Bool) (a : Nat) (s s' : State) (ev : List BEvent)
    (v : Validator) (c : Candidate)
    (hv : findFirst (valByTm a) s.validators = some v)
    (hc : findFirst (candByPub v.pubkey) s.candidates = some c)
    (hx : countAbsent (v.absent.set (h % 24) true) > 12)
    (hr : setAbsent P h grace a s = .ok (s', ev)) :
    findFirst (valByTm a) s'.validators = some { v with absent := freshBits, toDrop := true }
    ∧ findFirst (candByPub v.pubkey) s'.candidates
        = some { c with status := 1, jailedUntil := if grace then c.jailedUntil else h + P.jail }
    ∧ ev = (if grace then [] else [.jail c.pubkey (h + P.jail)]) := by
  have hx' : crossedAbsent h v = true := decide_eq_true hx
  simp only [setAbsent, hv, hx', if_true, hc] at hr
  cases hr
  exact ⟨findFirst_updFirst_some hv (fun _ => rfl), findFirst_updFirst_some hc (fun _ => rfl), rfl⟩

theorem absent_below_threshold (P : Params) (h : Nat) (grace : Bool) (a : Nat) (s s' : State) (ev : List BEvent)
    (v : Validator)
    (hv : findFirst (valByTm a) s.validators = some v)
    (hx : countAbsent (v.absent.set (h % 24) true) ≤ 12)
    (hr : setAbsent P h grace a s = .ok (s', ev)) :
    s'.candidates = s.candidates ∧ ev = []
    ∧ findFirst (valByTm a) s'.validators = some { v with absent := v.absent.set (h % 24) true } := by
  have hx' : crossedAbsent h v = false := decide_eq_false (Nat.not_lt.mpr hx)
  simp only [setAbsent, hv, hx'] at hr
  cases hr
  exact ⟨rfl, rfl, findFirst_updFirst_some hv (fun _ => rfl)⟩

theorem absent_unknown_ignored (P : Params) (h : Nat) (grace : Bool) (a : Nat) (s : State)
    (hv : findFirst (valByTm a) s.validators = none) : setAbsent P h grace a s = .ok (s, []) := by
  simp only [setAbsent, hv]

theorem present_only_clears_bit (h a : Nat) (s : State) :
    (setPresent h a s).candidates = s.candidates
    ∧ (setPresent h a s).validators = updFirst (valByTm a) (fun v => { v with absent := v.absent.set (h % 24) false }) s.validators :=
  ⟨rfl, rfl⟩

theorem absence_moves_no_value (P : Params) (h : Nat) (g : Bool) (vs : List (Nat × Bool)) (s s' : State) (ev : List BEvent)
    (hr : absencePhase P h g vs s = .ok (s', ev)) :
    (∀ k, holdings s' k = holdings s k) ∧ (∀ k, volumeOf s' k = volumeOf s k) ∧ baseTotal s' = baseTotal s :=
  let f := (absencePhase_frame hr).1
  ⟨f.holdings, f.volume, f.baseTotal⟩

-- non-vacuity: a validator with 12 misses that misses block 36 is switched off and jailed until 36 + 354; with 11 it is not
private def vEx (n : Nat) : Validator :=
  { pubkey := 7, totalBip := 100, accum := 0, absent := List.replicate n true ++ List.replicate (24 - n) false, tmAddr := 70 }
private def cEx : Candidate :=
  { id := 1, pubkey := 7, owner := 1, reward := 1, control := 2, commission := 10, status := 2, jailedUntil := 0,
    lastEditCommission := 0, totalBip := 100, stakes := [], updates := [] }
private def sEx (n : Nat) : State := { validators := [vEx n], candidates := [cEx] }

example : (match setAbsent {} 36 false 70 (sEx 12) with
    | .ok (s', _) => s'.candidates.map (fun c => (c.status, c.jailedUntil)) | .error _ => []) = [(1, 390)] := by decide
example : (match setAbsent {} 36 true 70 (sEx 12) with
    | .ok (s', _) => s'.candidates.map (fun c => (c.status, c.jailedUntil)) | .error _ => []) = [(1, 0)] := by decide
example : (match setAbsent {} 36 false 70 (sEx 11) with
    | .ok (s', _) => s'.candidates.map (fun c => (c.status, c.jailedUntil)) | .error _ => []) = [(2, 0)] := by decide
example : countAbsent ((vEx 12).absent.set (36 % 24) true) > 12 := by decide

/-! ### Jail -/

theorem jailed_cannot_switch_on (s : State) (sender : Addr) (pk : PubKey) (block : Nat) (c : Candidate)
    (hc : beginCandByKey s pk = some c) (hj : block ≤ c.jailedUntil) :
    setCandidateOnCheck s sender pk block ≠ none := by
  simp only [setCandidateOnCheck, hc]
  split
  · simp
  · have : isJailed c block = true := by simp [isJailed]; omega
    simp [this]

/-- So `setCandidateOnCheck` does not reject everything. -/
theorem unjailed_owner_can_switch_on (s : State) (pk : PubKey) (block : Nat) (c : Candidate)
    (hc : beginCandByKey s pk = some c) (hj : c.jailedUntil < block) :
    setCandidateOnCheck s c.owner pk block = none := by
  have : isJailed c block = false := by simp [isJailed]; omega
  simp [setCandidateOnCheck, hc, this]

theorem absent_jails_for_period (P : Params) (h : Nat) (a : Nat) (s s' : State) (ev : List BEvent)
    (v : Validator) (c : Candidate)
    (hv : findFirst (valByTm a) s.validators = some v)
    (hc : findFirst (candByPub v.pubkey) s.candidates = some c)
    (hx : countAbsent (v.absent.set (h % 24) true) > 12)
    (hr : setAbsent P h false a s = .ok (s', ev))
    (sender : Addr) (block : Nat) (hb : block ≤ h + P.jail) :
    setCandidateOnCheck s' sender v.pubkey block ≠ none := by
  obtain ⟨_, hc', _⟩ := absent_threshold P h false a s s' ev v c hv hc hx hr
  exact jailed_cannot_switch_on s' sender v.pubkey block _ hc' (by simpa using hb)

example : setCandidateOnCheck { candidates := [{ cEx with jailedUntil := 384, status := 1 }] } 1 7 384 = some 414 := by decide
example : setCandidateOnCheck { candidates := [{ cEx with jailedUntil := 384, status := 1 }] } 1 7 385 = none := by decide

/-! ### The slash -/

/-- The rounded-up 5 %: by the last two conjuncts `byzCut v` is the least integer whose 20-fold reaches `v`. -/
theorem byzantine_cut_is_ceil (v : Int) :
    byzCut v = (v + 19) / 20 ∧ v ≤ 20 * byzCut v ∧ 20 * (byzCut v - 1) < v := by
  rw [byzCut_eq_ceil]
  omega

/-- `ret` is what the node's `CalculateSaleReturn` values the cut of a custom coin at: it moves from the coin's reserve into
    the slashed pool, so that Σ reserves + slashed does not change (the last conjunct). -/
theorem byzantine_slash (o : Oracle) (coin : Coin) (v : Int) (p p' : ByzPots) (hr : slashPots o coin v p = .ok p') :
    (coin = 0 → p'.coins = p.coins ∧ p'.slashed = p.slashed + byzCut v)
    ∧ (coin ≠ 0 → ∃ ci ret, findFirst (coinById coin) p.coins = some ci
          ∧ o (.saleReturn ci.volume ci.reserve ci.crr (byzCut v)) = some ret
          ∧ p'.slashed = p.slashed + ret
          ∧ findFirst (coinById coin) p'.coins = some { ci with volume := ci.volume - byzCut v, reserve := ci.reserve - ret }
          ∧ sumBy (fun ci => ci.reserve) p'.coins + p'.slashed = sumBy (fun ci => ci.reserve) p.coins + p.slashed) := by
  have hs := slashPots_book hr 0
  rcases slashPots_cases hr with ⟨h0, rfl⟩ | ⟨h0, ci, ret, hf, ho, rfl⟩
  · exact ⟨fun _ => ⟨rfl, rfl⟩, fun h => absurd h0 h⟩
  · refine ⟨fun h => absurd h h0, fun _ => ⟨ci, ret, hf, ho, rfl, findFirst_updFirst_some hf (fun _ => rfl), ?_⟩⟩
    simp only [potBook, h0, if_true, if_false] at hs ⊢
    omega

theorem byzantine_punishment (P : Params) (o : Oracle) (h a : Nat) (s s' : State) (ev : List BEvent)
    (v : Validator) (c : Candidate) (ht : byzTarget a s = some (v, c)) (hr : byzStep P o h a s = .ok (s', ev)) :
    s'.frozen = s.frozen.map (slashItem h (h + P.unbond) c.id) ++ c.stakes.map (remainderFund P.unbond h c)
    ∧ findFirst (candByPub v.pubkey) s'.candidates = some { c with stakes := c.stakes.map zeroStake }
    ∧ findFirst (valByTm a) s'.validators = some { v with totalBip := 0, toDrop := true }
    ∧ s'.balances = s.balances := by
  obtain ⟨hv, _, hc, _⟩ := byzTarget_eq_some.mp ht
  rcases byzStep_cases hr with ⟨h0, _⟩ | ⟨_, _, _, _, _, ht', _, _, rfl⟩
  · rw [ht] at h0; cases h0
  cases ht.symm.trans ht'
  exact ⟨rfl, findFirst_updFirst_some hc (fun _ => rfl), findFirst_updFirst_some hv (fun _ => rfl), rfl⟩

theorem remainder_fund_exact (u h : Nat) (c : Candidate) (st : Stake) :
    (remainderFund u h c st).height = h + u ∧ (remainderFund u h c st).addr = st.owner
    ∧ (remainderFund u h c st).coin = st.coin ∧ (remainderFund u h c st).moveTo = 0
    ∧ (remainderFund u h c st).value + byzCut st.value = st.value := by
  refine ⟨rfl, rfl, rfl, rfl, ?_⟩
  simp only [remainderFund]; exact byzKeep_add_cut _

/-! ### Punished once -/

theorem byzantine_skips (a : Nat) (s : State) :
    (findFirst (valByTm a) s.validators = none → byzTarget a s = none)
    ∧ (∀ v, findFirst (valByTm a) s.validators = some v → v.toDrop = true → byzTarget a s = none)
    ∧ (∀ v, findFirst (valByTm a) s.validators = some v → findFirst (candByPub v.pubkey) s.candidates = none → byzTarget a s = none)
    ∧ (∀ v c, findFirst (valByTm a) s.validators = some v → findFirst (candByPub v.pubkey) s.candidates = some c → c.status = 1 →
        byzTarget a s = none) := by
  refine ⟨fun h => by simp [byzTarget, h], fun v h hd => by simp [byzTarget, h, hd], fun v h hc => ?_, fun v c h hc hs => ?_⟩
  · simp only [byzTarget, h, hc]; split <;> rfl
  · simp only [byzTarget, h, hc, hs]; split <;> rfl

theorem skipped_changes_nothing (P : Params) (o : Oracle) (h a : Nat) (s : State) (ht : byzTarget a s = none) :
    byzStep P o h a s = .ok (s, []) := byzStep_skip P o h a s ht

theorem skip_is_stable (P : Params) (o : Oracle) (h a b : Nat) (s s' : State) (ev : List BEvent)
    (ha : byzTarget a s = none) (hr : byzStep P o h b s = .ok (s', ev)) : byzTarget a s' = none := by
  rcases byzStep_cases hr with ⟨_, rfl⟩ | ⟨w, d, _, _, _, _, _, _, rfl⟩
  · exact ha
  refine Option.eq_none_iff_forall_ne_some.mpr (fun ⟨v', c'⟩ h' => ?_)
  obtain ⟨hv', hd', hc', hs'⟩ := byzTarget_eq_some.mp h'
  -- whoever is a target after the step was one before it: the step only sets a drop mark and zeroes stakes
  rcases findFirst_updFirst_or (valByTm a) (valByTm b) (fun v => { v with totalBip := 0, toDrop := true }) s.validators
      (fun _ => rfl) with e | e <;> rw [e] at hv'
  · rcases findFirst_updFirst_or (candByPub v'.pubkey) (candByPub w.pubkey) (fun c => { c with stakes := c.stakes.map zeroStake })
        s.candidates (fun _ => rfl) with e | e <;> rw [e] at hc'
    · rw [byzTarget_eq_some.mpr ⟨hv', hd', hc', hs'⟩] at ha; cases ha
    · obtain ⟨y, hy, rfl⟩ := Option.map_eq_some_iff.mp hc'
      rw [byzTarget_eq_some.mpr ⟨hv', hd', hy, hs'⟩] at ha; cases ha
  · obtain ⟨x, _, rfl⟩ := Option.map_eq_some_iff.mp hv'
    cases hd'

/-- /repo ecfb9df: the drop mark the first punishment sets makes every later entry against `a` in the same block a skip. -/
theorem punish_once (P : Params) (o : Oracle) (h a : Nat) (rest : List Nat) (s s1 s2 : State) (e1 e2 : List BEvent)
    (h1 : byzStep P o h a s = .ok (s1, e1)) (h2 : byzPhase P o h rest s1 = .ok (s2, e2)) :
    byzTarget a s1 = none ∧ byzTarget a s2 = none ∧ byzStep P o h a s2 = .ok (s2, []) := by
  have hfirst : byzTarget a s1 = none := by
    rcases byzStep_cases h1 with ⟨ht, rfl⟩ | ⟨v, c, _, _, _, ht, _, _, rfl⟩
    · exact ht
    · exact (byzantine_skips a _).2.1 _ (findFirst_updFirst_some (byzTarget_eq_some.mp ht).1 (fun _ => rfl)) rfl
  have hlater : byzTarget a s2 = none :=
    byzPhase_lift (R := fun s s' => byzTarget a s = none → byzTarget a s' = none) (fun _ => id) (fun f g => g ∘ f)
      (fun hb ha => skip_is_stable P o h a _ _ _ _ ha hb) h2 hfirst
  exact ⟨hfirst, hlater, byzStep_skip P o h a s2 hlater⟩

theorem punished_has_no_stakes (P : Params) (o : Oracle) (h a : Nat) (s s' : State) (ev : List BEvent)
    (v : Validator) (c : Candidate) (ht : byzTarget a s = some (v, c)) (hr : byzStep P o h a s = .ok (s', ev)) :
    ∃ c', findFirst (candByPub v.pubkey) s'.candidates = some c' ∧ ∀ st ∈ c'.stakes, st.value = 0 := by
  obtain ⟨_, hc, _, _⟩ := byzantine_punishment P o h a s s' ev v c ht hr
  refine ⟨_, hc, ?_⟩
  intro st hst
  obtain ⟨x, _, rfl⟩ := List.mem_map.mp hst
  rfl

/-! ### Conservation -/

/-- "Slashed value goes to the total-slashed pool", as conservation: what the delegators lose in base coin is in the slashed
    pool; what they lose in another coin has left that coin's volume, and the reserve it was worth has moved to the slashed pool.
    `hu`: with period 0 a move re-frozen because its target is gone would be stored under the height whose funds are deleted at
    the end of the same BeginBlock. -/
theorem begin_conserves (P : Params) (o : Oracle) (s s' : State) (r : BeginReq) (grace : Bool) (ev : List BEvent)
    (hu : 0 < P.unbond) (hr : beginBlock P o s r grace = .ok (s', ev)) :
    (∀ k, k ≠ 0 → volumeOf s' k - holdings s' k = volumeOf s k - holdings s k) ∧ baseTotal s' = baseTotal s := by
  obtain ⟨sA, evA, sB, evB, evC, hA, hB, hC⟩ := beginBlock_phases hr
  exact ((absencePhase_frame hA).1.conserves.trans (byzPhase_conserves hB)).trans (maturityPhase_conserves hu hC)

theorem begin_preserves_conserved (P : Params) (o : Oracle) (s s' : State) (r : BeginReq) (grace : Bool) (ev : List BEvent)
    (hu : 0 < P.unbond) (hr : beginBlock P o s r grace = .ok (s', ev)) (hc : Conserved s) : Conserved s' := by
  intro k hk
  have := (begin_conserves P o s s' r grace ev hu hr).1 k hk
  have := hc k hk
  omega

-- non-vacuity: one validator (address 70, key 7) with two stakes (base coin 1000, coin 5: 999) and a pending unbond of 101
private def stEx : List Stake := [{ owner := 11, coin := 0, value := 1000, bip := 1000 }, { owner := 12, coin := 5, value := 999, bip := 10 }]
private def coinEx : CoinInfo :=
  { id := 5, symbol := "X", version := 0, volume := 100000, reserve := 50000, crr := 100, maxSupply := 1000000, owner := none,
    mintable := false, burnable := false }
private def sByz : State :=
  { validators := [vEx 0], candidates := [{ cEx with stakes := stEx }], coins := [coinEx],
    frozen := [{ height := 40, addr := 13, candKey := some 7, candId := 1, coin := 0, value := 101, moveTo := 0 }] }
private def oEx : Oracle := fun q => match q with
  | .saleReturn v r _ x => some (r * x / v)
  | _ => none
private def rByz (l : List Nat) : BeginReq := { height := 30, votes := [(70, true)], byz := l }

private def viewFrozen (r : M (State × List BEvent)) : List (Nat × Nat × Nat × Int) :=
  match r with
  | .ok (s', _) => s'.frozen.map (fun f => (f.height, f.addr, f.coin, f.value))
  | .error _ => []
private def viewPots (r : M (State × List BEvent)) : Int × List (Int × Int) :=
  match r with
  | .ok (s', _) => (s'.slashed, s'.coins.map (fun c => (c.volume, c.reserve)))
  | .error _ => (0, [])
private def viewStakes (r : M (State × List BEvent)) : List (Int × Bool) × List (List Int) :=
  match r with
  | .ok (s', _) => (s'.validators.map (fun v => (v.totalBip, v.toDrop)), s'.candidates.map (fun c => c.stakes.map (·.value)))
  | .error _ => ([], [])

example : viewFrozen (beginBlock {} oEx sByz (rByz [70]) false) = [(40, 13, 0, 95), (561, 11, 0, 950), (561, 12, 5, 949)] := by decide
example : viewPots (beginBlock {} oEx sByz (rByz [70]) false) = (6 + 50 + 25, [(99950, 49975)]) := by decide
example : viewStakes (beginBlock {} oEx sByz (rByz [70]) false) = ([(0, true)], [[0, 0]]) := by decide
-- a second evidence entry against the same validator in the same block changes nothing more
example : viewFrozen (beginBlock {} oEx sByz (rByz [70, 70]) false) = viewFrozen (beginBlock {} oEx sByz (rByz [70]) false) := by decide
example : viewPots (beginBlock {} oEx sByz (rByz [70, 70]) false) = viewPots (beginBlock {} oEx sByz (rByz [70]) false) := by decide
example : byzPunishedIds {} oEx 30 [70, 70] sByz = [1] := by decide

end Minter
