import MinterProofs.Validators
/-
  C19: rewards accrue only to present validators, in proportion to stake, and those of dropped validators return to the pot
  (`returnDropped`, `accrue`: the first two loops of `EndBlock`); a payout (`payout`: `PayRewardsV5Fix`) splits the accrued reward
  into 10 % DAO, 10 % developers, commission and delegator shares and never pays more than accrued + `moreRewards`.
  The branches of the stake loop differ only in what they owe the stake (`stakeDue`); what they do to the running values is one
  function (`PayAcc.settle`), and it keeps `PayAcc.ledger`.  That gives the balance unconditionally; the signs need `PayOK`.
  The harness mode `valid` compares the model functions with the node on every run.
-/
namespace Minter

def accumOf (vals : List Validator) : Int := sumBy (fun v => v.accum) vals

/-! ### Accrual -/

/-- The "accrue only to validators recorded as present in the block, in proportion to their stake" of C19. -/
theorem accrue_get (pot : Int) (vals : List Validator) (present : PubKey → Bool) (i : Nat) :
    (accrue pot vals present).1[i]? = vals[i]?.map (fun v =>
      if isPresent present v then { v with accum := v.accum + pot * v.totalBip / totalPower vals present } else v) :=
  List.getElem?_map ..

theorem accrue_length (pot : Int) (vals : List Validator) (present : PubKey → Bool) :
    (accrue pot vals present).1.length = vals.length := List.length_map ..

theorem accrue_absent (pot : Int) (vals : List Validator) (present : PubKey → Bool) (i : Nat) (v : Validator)
    (hv : vals[i]? = some v) (hp : isPresent present v = false) : (accrue pot vals present).1[i]? = some v := by
  rw [accrue_get, hv, Option.map_some, hp]; rfl

theorem accrue_conserves (pot : Int) (vals : List Validator) (present : PubKey → Bool) :
    accumOf (accrue pot vals present).1 + (accrue pot vals present).2 = accumOf vals + pot := by
  have key : accumOf (accrue pot vals present).1
      = accumOf vals + sumBy (fun v => if isPresent present v then gainOf pot (totalPower vals present) v else 0) vals := by
    rw [accumOf, accumOf, accrue, sumBy_map, ← sumBy_add]
    exact sumBy_congr_mem _ _ _ fun v _ => by split <;> simp
  rw [key]
  show _ + (pot - _) = _
  omega

theorem totalPower_pos (vals : List Validator) (present : PubKey → Bool) (hst : ∀ v ∈ vals, 0 ≤ v.totalBip) :
    0 < totalPower vals present ∧
      sumBy (fun v => if isPresent present v then v.totalBip else 0) vals ≤ totalPower vals present := by
  have h0 : 0 ≤ sumBy (fun v => if isPresent present v then v.totalBip else 0) vals :=
    sumBy_nonneg _ _ (fun v hv => by have := hst v hv; split <;> omega)
  unfold totalPower
  simp only
  split <;> omega

theorem accrue_remainder_nonneg (pot : Int) (vals : List Validator) (present : PubKey → Bool)
    (hpot : 0 ≤ pot) (hst : ∀ v ∈ vals, 0 ≤ v.totalBip) : 0 ≤ (accrue pot vals present).2 := by
  obtain ⟨hpos, hle⟩ := totalPower_pos vals present hst
  have := sum_shares_le (fun v : Validator => if isPresent present v then v.totalBip else 0) pot
    (totalPower vals present) hpot (Int.le_of_lt hpos) vals hle
  rw [sumBy_congr_mem _ (fun v => if isPresent present v then gainOf pot (totalPower vals present) v else 0) vals
    fun v _ => by split <;> simp [gainOf]] at this
  exact Int.sub_nonneg_of_le this

theorem gainOf_bounds (pot tp : Int) (v : Validator) (hpot : 0 ≤ pot) (hs : 0 ≤ v.totalBip) (htp : 0 < tp) (hle : v.totalBip ≤ tp) :
    0 ≤ gainOf pot tp v ∧ gainOf pot tp v ≤ pot :=
  ⟨Int.ediv_nonneg (Int.mul_nonneg hpot hs) (Int.le_of_lt htp), mul_ediv_le pot _ tp hpot htp hle⟩

/-- With `returnDropped_conserves`, the "accrued rewards of dropped validators return to the pool" of C19. -/
theorem returnDropped_get (vals : List Validator) (i : Nat) :
    (returnDropped vals).1[i]? = vals[i]?.map (fun v => if v.toDrop then { v with accum := 0 } else v) :=
  List.getElem?_map ..

theorem returnDropped_conserves (vals : List Validator) :
    accumOf (returnDropped vals).1 + (returnDropped vals).2 = accumOf vals := by
  rw [accumOf, accumOf, returnDropped, sumBy_map, ← sumBy_add]
  exact sumBy_congr_mem _ _ _ fun v _ => by split <;> simp

theorem endBlockAccrue_conserves (pot0 : Int) (vals : List Validator) (present : PubKey → Bool) :
    accumOf (endBlockAccrue pot0 vals present).1 + (endBlockAccrue pot0 vals present).2 = accumOf vals + pot0 := by
  rw [endBlockAccrue, accrue_conserves, ← returnDropped_conserves vals]
  omega

theorem endBlockAccrue_remainder_nonneg (pot0 : Int) (vals : List Validator) (present : PubKey → Bool)
    (hpot : 0 ≤ pot0) (hst : ∀ v ∈ vals, 0 ≤ v.totalBip) (hacc : ∀ v ∈ vals, 0 ≤ v.accum) :
    0 ≤ (endBlockAccrue pot0 vals present).2 := by
  apply accrue_remainder_nonneg
  · exact Int.add_nonneg hpot (sumBy_nonneg _ _ fun v hv => by have := hacc v hv; split <;> omega)
  · intro v hv
    obtain ⟨w, hw, rfl⟩ := List.mem_map.mp hv
    have := hst w hw
    split <;> exact this

/-- Pot 100, stakes 1,2,3 with the second absent and the third dropped (accumulated 7 returned): the first gets all 107. -/
example : (endBlockAccrue 100 [⟨1, 1, 5, [], 0, false⟩, ⟨2, 2, 0, [], 0, false⟩, ⟨3, 3, 7, [], 0, true⟩]
    (fun k => k == 1 || k == 3)).1.map (·.accum) = [112, 0, 0] := by decide
example : (endBlockAccrue 100 [⟨1, 3, 0, [], 0, false⟩, ⟨2, 4, 0, [], 0, false⟩] (fun _ => true))
    = ([⟨1, 3, 42, [], 0, false⟩, ⟨2, 4, 57, [], 0, false⟩], 1) := by decide

/-! ### Payout -/

/-- What the loop owes a stake whose proportional reward is `r`: the amount offered to the delegator, then the extra DAO and
    developers taxes.  The three branches of a locked stake as in `stakeStep`; `(r, 0, 0)` for a plain one. -/
def stakeDue (p : PayIn) (r : Int) (s : PStake) : Int × Int × Int :=
  if isX3 p s then
    if p.totalAccum > 0 ∧ p.accum > 0 then
      ((x3Safe p s).1 + (r - (x3Calc p s).1), (x3Safe p s).2 - (x3Calc p s).2.1, (x3Safe p s).2 - (x3Calc p s).2.2)
    else if p.totalAccum ≤ 0 ∧ p.accum ≤ 0 then
      let x := p.safeReward * p.period * s.bip * 3 / p.totalStakes
      let x1 := x - x * devCommission / 100 - x * daoCommission / 100
      (x1 - x1 * p.commission / 100, x * devCommission / 100, x * daoCommission / 100)
    else (r, 0, 0)
  else (r, 0, 0)

/-- The effect on the running values that all branches of `stakeStep` share: `r` leaves the remainder, the taxes `d.2` are
    booked, and the amount `d.1` is paid if it is at least 1 pip; otherwise `r` is lost. -/
def PayAcc.settle (a : PayAcc) (s : PStake) (r : Int) (d : Int × Int × Int) : PayAcc :=
  { dao := a.dao + d.2.1, dev := a.dev + d.2.2, rem := a.rem - r,
    more := if d.1 < 1 then a.more + d.2.1 + d.2.2 else a.more + d.2.1 + d.2.2 + (d.1 - r),
    lost := if d.1 < 1 then a.lost + r else a.lost,
    pays := if d.1 < 1 then a.pays else ⟨.delegator, s.owner, d.1, s.coin⟩ :: a.pays }

def rewardOf (p : PayIn) (D : Int) (s : PStake) : Int :=
  if s.bip = 0 then 0 else if p.valStake = 0 then 0 else D * s.bip / p.valStake

/-- The two guards of `stakeStep` change nothing: where one skips the stake, `⌊D·bip/stake⌋` is `⌊0/stake⌋` or `⌊D·bip/0⌋ = 0`. -/
theorem rewardOf_eq (p : PayIn) (D : Int) (s : PStake) : rewardOf p D s = D * s.bip / p.valStake := by
  unfold rewardOf
  split
  · next h => rw [h, Int.mul_zero, Int.zero_ediv]
  · split
    · next h => rw [h, Int.ediv_zero]
    · rfl

theorem stakeStep_eq (p : PayIn) (D : Int) (a : PayAcc) (s : PStake) (hb : s.bip ≠ 0) (hv : p.valStake ≠ 0) :
    stakeStep p D a s = a.settle s (rewardOf p D s) (stakeDue p (rewardOf p D s) s) := by
  rw [stakeStep, if_neg hb, if_neg hv, rewardOf, if_neg hb, if_neg hv]
  generalize D * s.bip / p.valStake = r
  unfold stakeDue PayAcc.settle
  by_cases hx : isX3 p s = true
  · rw [if_pos hx, if_pos hx]
    by_cases h1 : p.totalAccum > 0 ∧ p.accum > 0
    · rw [if_pos h1, if_pos h1]
      dsimp only
      split <;> rfl
    · rw [if_neg h1, if_neg h1]
      by_cases h2 : p.totalAccum ≤ 0 ∧ p.accum ≤ 0
      · rw [if_pos h2, if_pos h2]
        dsimp only
        split <;> rfl
      · rw [if_neg h2, if_neg h2]
        dsimp only
        split <;> simp only [Int.add_zero]
  · rw [if_neg hx, if_neg hx]
    dsimp only
    split <;> simp only [Int.add_zero, Int.sub_self]

theorem stakeStep_cases (p : PayIn) (D : Int) (a : PayAcc) (s : PStake) :
    (stakeStep p D a s = a ∧ rewardOf p D s = 0) ∨
    (p.valStake ≠ 0 ∧ stakeStep p D a s = a.settle s (rewardOf p D s) (stakeDue p (rewardOf p D s) s)) := by
  by_cases hb : s.bip = 0
  · exact .inl ⟨by rw [stakeStep, if_pos hb], by rw [rewardOf, if_pos hb]⟩
  by_cases hv : p.valStake = 0
  · exact .inl ⟨by rw [stakeStep, if_neg hb, if_pos hv], by rw [rewardOf, if_neg hb, if_pos hv]⟩
  exact .inr ⟨hv, stakeStep_eq p D a s hb hv⟩

theorem stakeDue_plain (p : PayIn) (r : Int) (s : PStake) (hx : isX3 p s = false) : stakeDue p r s = (r, 0, 0) := by
  rw [stakeDue, hx]; rfl

/-- The ledger of the stake loop: what left `rem` went to a delegator, to the DAO/developers (net of `more`) or is `lost`. -/
def PayAcc.ledger (a : PayAcc) : Int := a.rem + paidTotal a.pays + a.dao + a.dev + a.lost - a.more

theorem PayAcc.settle_ledger (a : PayAcc) (s : PStake) (r : Int) (d : Int × Int × Int) : (a.settle s r d).ledger = a.ledger := by
  unfold settle ledger
  split <;> simp only [paidTotal, sumBy] <;> omega

/-- A reflexive, transitive relation that every settlement respects holds across the stake loop (a skipped stake is `hrefl`). -/
theorem foldl_settle (R : PayAcc → PayAcc → Prop) (hrefl : ∀ b, R b b) (htrans : ∀ a b c, R a b → R b c → R a c)
    (p : PayIn) (D : Int) (l : List PStake) (a : PayAcc)
    (hstep : ∀ b, ∀ s ∈ l, p.valStake ≠ 0 → R b (b.settle s (rewardOf p D s) (stakeDue p (rewardOf p D s) s))) :
    R a (l.foldl (stakeStep p D) a) :=
  foldl_rel R hrefl htrans _ l a fun b s hs => by
    rcases stakeStep_cases p D b s with ⟨e, _⟩ | ⟨hv, e⟩ <;> rw [e]
    · exact hrefl b
    · exact hstep b s hs hv

theorem foldl_ledger (p : PayIn) (D : Int) (l : List PStake) (a : PayAcc) :
    (l.foldl (stakeStep p D) a).ledger = a.ledger :=
  foldl_settle (fun a b => b.ledger = a.ledger) (fun _ => rfl) (fun _ _ _ h₁ h₂ => h₂.trans h₁) p D l a
    fun b _ _ _ => b.settle_ledger ..

theorem paidTotal_append (l₁ l₂ : List Payment) : paidTotal (l₁ ++ l₂) = paidTotal l₁ + paidTotal l₂ := sumBy_append _ _ _

theorem paidTotal_reverse (l : List Payment) : paidTotal l.reverse = paidTotal l := sumBy_perm _ (List.reverse_perm l)

/-- No hypothesis.  The remainder goes to the slashed total, `more` is the `moreRewards` that `EndBlock` adds to the emission.
    `lost` is the part of the proportional rewards of *locked* stakes whose increased reward came out below 1 pip:
    the code subtracts them from the remainder but pays them to nobody (`continue` before `AddUpdate`). -/
theorem payout_balance (p : PayIn) :
    paidTotal (payout p).payments + (payout p).remainder + (payout p).lost = p.accum + (payout p).more := by
  have h := foldl_ledger p (delegatorsPart p) p.stakes
    { dao := dao0 p.accum, dev := dev0 p.accum, more := 0, rem := p.accum - dao0 p.accum - dev0 p.accum - validatorCut p }
  simp only [payout]
  generalize p.stakes.foldl _ _ = a at h ⊢
  rw [List.cons_append, paidTotal, sumBy, ← paidTotal, paidTotal_append, paidTotal_reverse]
  simp only [PayAcc.ledger, paidTotal, sumBy] at h ⊢
  omega

theorem foldl_rem (p : PayIn) (D : Int) (l : List PStake) (a : PayAcc) :
    (l.foldl (stakeStep p D) a).rem = a.rem - sumBy (rewardOf p D) l := by
  induction l generalizing a with
  | nil => exact (Int.sub_zero _).symm
  | cons s t ih =>
    rw [List.foldl_cons, ih, sumBy, ← Int.sub_sub]
    rcases stakeStep_cases p D a s with ⟨e, e0⟩ | ⟨_, e⟩ <;> rw [e]
    · rw [e0, Int.sub_zero]
    · rfl

theorem payout_remainder (p : PayIn) :
    (payout p).remainder = delegatorsPart p - sumBy (rewardOf p (delegatorsPart p)) p.stakes := by
  simp only [payout]
  rw [foldl_rem]
  simp only [delegatorsPart]
  omega

theorem delegatorsPart_nonneg (p : PayIn) (hacc : 0 ≤ p.accum) (hc0 : 0 ≤ p.commission) (hc1 : p.commission ≤ 100) :
    0 ≤ delegatorsPart p ∧ 0 ≤ validatorCut p ∧ 0 ≤ dao0 p.accum ∧ 0 ≤ dev0 p.accum := by
  have hd : 0 ≤ dao0 p.accum ∧ 0 ≤ dev0 p.accum ∧ 0 ≤ p.accum - dev0 p.accum - dao0 p.accum := by
    simp only [dev0, dao0, devCommission, daoCommission]; omega
  exact ⟨Int.sub_nonneg_of_le (mul_ediv_le _ _ 100 hd.2.2 (by omega) hc1),
    Int.ediv_nonneg (Int.mul_nonneg hd.2.2 hc0) (by omega), hd.1, hd.2.1⟩

/-- `hsum` is what the `panic("Negative remainder")` of `PayRewardsV5Fix` stands on. -/
theorem payout_remainder_nonneg (p : PayIn) (hacc : 0 ≤ p.accum) (hc0 : 0 ≤ p.commission) (hc1 : p.commission ≤ 100)
    (hv : 0 ≤ p.valStake) (hsum : sumBy (fun s => s.bip) p.stakes ≤ p.valStake) :
    0 ≤ (payout p).remainder := by
  rw [payout_remainder, sumBy_congr_mem _ _ _ fun s _ => rewardOf_eq p _ s]
  have := sum_shares_le (fun s : PStake => s.bip) (delegatorsPart p) p.valStake
    (delegatorsPart_nonneg p hacc hc0 hc1).1 hv p.stakes hsum
  omega

/-! ### Nothing is lost and nothing is negative when `calcReward ≤ 3·safeReward` -/

/-- What the node guarantees about the inputs of a payout: argued and monitored, not proved for reachable states (DESIGN.md,
    C19, "Partial").  `calc3` comes from `UpdatePriceFix`, which keeps `reward ≤ safeReward` (`reward_le_safeReward`, C28). -/
structure PayOK (p : PayIn) : Prop where
  accum : 0 ≤ p.accum
  com0 : 0 ≤ p.commission
  com1 : p.commission ≤ 100
  stake : 0 ≤ p.valStake
  bips : ∀ s ∈ p.stakes, 0 ≤ s.bip
  calc0 : 0 ≤ p.calcReward
  calc3 : p.calcReward ≤ 3 * p.safeReward
  period : 0 ≤ p.period
  ts : 0 ≤ p.totalStakes

theorem afterCommission_mono (a b c : Int) (hab : a ≤ b) (hc1 : c ≤ 100) :
    a - a * c / 100 ≤ b - b * c / 100 := by
  have h1 : (b - a) * c ≤ (b - a) * 100 := Int.mul_le_mul_of_nonneg_left hc1 (Int.sub_nonneg_of_le hab)
  have h2 : b * c = a * c + (b - a) * c := by rw [Int.sub_mul]; omega
  have h3 := Int.ediv_le_ediv (by omega : (0 : Int) < 100) (h2 ▸ Int.add_le_add_left h1 (a * c))
  rw [Int.add_mul_ediv_right _ _ (by omega : (100 : Int) ≠ 0)] at h3
  omega

theorem x3_safe_ge_calc (p : PayIn) (s : PStake) (h : PayOK p) (hb : 0 ≤ s.bip) (hV : 0 < p.valStake) (hT : 0 < p.totalAccum) :
    (x3Calc p s).1 ≤ (x3Safe p s).1 ∧ (x3Calc p s).2.1 ≤ (x3Safe p s).2 ∧ (x3Calc p s).2.2 ≤ (x3Safe p s).2 := by
  have hy0 : 0 ≤ p.calcReward * p.period * s.bip * p.accum / p.valStake / p.totalAccum :=
    Int.ediv_nonneg (Int.ediv_nonneg
      (Int.mul_nonneg (Int.mul_nonneg (Int.mul_nonneg h.calc0 h.period) hb) h.accum) (Int.le_of_lt hV)) (Int.le_of_lt hT)
  have hraw : p.calcReward * p.period * s.bip * p.accum / p.valStake / p.totalAccum
      ≤ p.safeReward * p.period * s.bip * 3 * p.accum / p.valStake / p.totalAccum := by
    apply Int.ediv_le_ediv hT (Int.ediv_le_ediv hV _)
    have := Int.mul_le_mul_of_nonneg_right h.calc3 (Int.mul_nonneg (Int.mul_nonneg h.period hb) h.accum)
    linarith [this]
  have htax : (x3Calc p s).2.1 ≤ (x3Safe p s).2 :=
    Int.ediv_le_ediv (by decide) (Int.mul_le_mul_of_nonneg_right hraw (by decide))
  -- what is left of the raw `calc` amount y after both taxes can exceed what is left of the raw `safe` amount x by 1
  -- (y = 9, x = 10); the further 20 % that only y loses make up for it
  refine ⟨afterCommission_mono _ _ _ ?_ h.com1, htax, htax⟩
  simp only [devCommission, daoCommission]
  omega

theorem stakeDue_ok (p : PayIn) (h : PayOK p) (s : PStake) (hs : 0 ≤ s.bip) (hV : 0 < p.valStake)
    (r : Int) (hr : 0 ≤ r) (hr0 : p.accum ≤ 0 → r = 0) :
    0 ≤ (stakeDue p r s).2.1 ∧ 0 ≤ (stakeDue p r s).2.2 ∧ ((stakeDue p r s).1 < 1 → r = 0) := by
  have plain : 0 ≤ (0 : Int) ∧ 0 ≤ (0 : Int) ∧ (r < 1 → r = 0) := ⟨le_refl _, le_refl _, fun _ => by omega⟩
  unfold stakeDue
  by_cases hx : isX3 p s = true
  · rw [if_pos hx]
    by_cases h1 : p.totalAccum > 0 ∧ p.accum > 0
    · rw [if_pos h1]
      obtain ⟨g1, g2, g3⟩ := x3_safe_ge_calc p s h hs hV h1.1
      exact ⟨Int.sub_nonneg_of_le g2, Int.sub_nonneg_of_le g3, fun hlt => by
        have : (x3Safe p s).1 + (r - (x3Calc p s).1) < 1 := hlt
        omega⟩
    · rw [if_neg h1]
      by_cases h2 : p.totalAccum ≤ 0 ∧ p.accum ≤ 0
      · rw [if_pos h2]
        have hx0 : 0 ≤ p.safeReward * p.period * s.bip * 3 / p.totalStakes :=
          Int.ediv_nonneg (Int.mul_nonneg (Int.mul_nonneg (Int.mul_nonneg
            (by have := h.calc0; have := h.calc3; omega) h.period) hs) (by decide)) h.ts
        have htax := Int.ediv_nonneg (Int.mul_nonneg hx0 (by decide : (0 : Int) ≤ 10)) (by decide : (0 : Int) ≤ 100)
        exact ⟨htax, htax, fun _ => hr0 h2.2⟩
      · rw [if_neg h2]; exact plain
  · rw [if_neg hx]; exact plain

theorem foldl_ok (p : PayIn) (h : PayOK p) (l : List PStake) (hl : ∀ s ∈ l, 0 ≤ s.bip) (a : PayAcc) :
    (l.foldl (stakeStep p (delegatorsPart p)) a).lost = a.lost ∧
    a.dao ≤ (l.foldl (stakeStep p (delegatorsPart p)) a).dao ∧ a.dev ≤ (l.foldl (stakeStep p (delegatorsPart p)) a).dev :=
  foldl_settle (fun a b => b.lost = a.lost ∧ a.dao ≤ b.dao ∧ a.dev ≤ b.dev) (fun _ => ⟨rfl, le_refl _, le_refl _⟩)
    (fun _ _ _ h₁ h₂ => ⟨h₂.1.trans h₁.1, le_trans h₁.2.1 h₂.2.1, le_trans h₁.2.2 h₂.2.2⟩) p _ l a fun b s hs hv => by
    obtain ⟨hD, hcut, hdao, hdev⟩ := delegatorsPart_nonneg p h.accum h.com0 h.com1
    have hr := rewardOf_eq p (delegatorsPart p) s
    obtain ⟨g1, g2, g3⟩ := stakeDue_ok p h s (hl s hs) (by have := h.stake; omega) (rewardOf p (delegatorsPart p) s)
      (hr ▸ Int.ediv_nonneg (Int.mul_nonneg hD (hl s hs)) h.stake) fun ha => by
        have : delegatorsPart p = 0 := by simp only [delegatorsPart] at hD ⊢; omega
        rw [hr, this, Int.zero_mul, Int.zero_ediv]
    refine ⟨?_, Int.le_add_of_nonneg_right g1, Int.le_add_of_nonneg_right g2⟩
    show (if _ < 1 then b.lost + _ else b.lost) = b.lost
    split
    · next hlt => rw [g3 hlt, Int.add_zero]
    · rfl

/-- No hypothesis: `if safeRewardVariable.Sign() < 1 { continue }` in `PayRewardsV5Fix`. -/
theorem foldl_pays (p : PayIn) (D : Int) (l : List PStake) (a : PayAcc) :
    ∀ x ∈ (l.foldl (stakeStep p D) a).pays, x ∈ a.pays ∨ (1 ≤ x.amount ∧ x.role = Role.delegator ∧ ∃ s ∈ l, x.addr = s.owner ∧ x.forCoin = s.coin) :=
  foldl_settle (fun a b => ∀ x ∈ b.pays, x ∈ a.pays ∨ (1 ≤ x.amount ∧ x.role = Role.delegator ∧ ∃ s ∈ l, x.addr = s.owner ∧ x.forCoin = s.coin))
    (fun _ _ hx => .inl hx) (fun _ _ _ h₁ h₂ x hx => (h₂ x hx).elim (h₁ x) .inr) p D l a fun b s hs _ x hx => by
    change x ∈ if _ < 1 then b.pays else _ :: b.pays at hx
    split at hx
    · exact .inl hx
    · next hge =>
      rcases List.mem_cons.mp hx with rfl | hx
      · exact .inr ⟨Int.not_lt.mp hge, rfl, s, hs, rfl, rfl⟩
      · exact .inl hx

/-- The "total paid never exceeds the accrued amount, except for the increased reward of locked stakes, which is added to the
    emission" of C19 (`more` is that increase, extra x3 taxes included).  DAO and developers are not negative because they
    start at `⌊10 %⌋` and the x3 taxes only add to them. -/
theorem payout_main (p : PayIn) (h : PayOK p) (hsum : sumBy (fun s => s.bip) p.stakes ≤ p.valStake) :
    (payout p).lost = 0 ∧
    0 ≤ (payout p).remainder ∧
    (payout p).remainder = p.accum + (payout p).more - paidTotal (payout p).payments ∧
    paidTotal (payout p).payments ≤ p.accum + (payout p).more ∧
    (∀ x ∈ (payout p).payments, 0 ≤ x.amount) := by
  have hbal := payout_balance p
  have hrem := payout_remainder_nonneg p h.accum h.com0 h.com1 h.stake hsum
  obtain ⟨hD, hcut, hdao, hdev⟩ := delegatorsPart_nonneg p h.accum h.com0 h.com1
  have hfold := foldl_ok p h p.stakes h.bips
  have hlost : (payout p).lost = 0 := (hfold _).1
  refine ⟨hlost, hrem, by omega, by omega, ?_⟩
  intro x hx
  simp only [payout, List.mem_cons, List.mem_append, List.mem_reverse, List.mem_nil_iff, or_false] at hx
  rcases hx with (rfl | hx) | rfl | rfl
  · exact hcut
  · rcases foldl_pays p _ p.stakes _ x hx with h' | ⟨h1, _⟩
    · exact absurd h' List.not_mem_nil
    · omega
  · exact le_trans hdao (hfold _).2.1
  · exact le_trans hdev (hfold _).2.2

theorem payout_shares (p : PayIn) :
    (payout p).payments.head? = some ⟨.validator, p.rewardAddr, (p.accum - p.accum * 10 / 100 - p.accum * 10 / 100) * p.commission / 100, 0⟩ :=
  rfl

theorem payout_plain (p : PayIn) (hx : ∀ s ∈ p.stakes, isX3 p s = false) :
    (payout p).more = 0 ∧
    ⟨.dao, p.daoAddr, p.accum * 10 / 100, 0⟩ ∈ (payout p).payments ∧
    ⟨.developers, p.devAddr, p.accum * 10 / 100, 0⟩ ∈ (payout p).payments := by
  obtain ⟨k1, k2, k3⟩ := foldl_settle (fun a b => b.more = a.more ∧ b.dao = a.dao ∧ b.dev = a.dev)
    (fun _ => ⟨rfl, rfl, rfl⟩) (fun _ _ _ h₁ h₂ => ⟨h₂.1.trans h₁.1, h₂.2.1.trans h₁.2.1, h₂.2.2.trans h₁.2.2⟩)
    p (delegatorsPart p) p.stakes _ fun b s hs _ => by
      rw [stakeDue_plain p _ s (hx s hs)]
      refine ⟨?_, Int.add_zero _, Int.add_zero _⟩
      show (if _ < 1 then b.more + 0 + 0 else b.more + 0 + 0 + (_ - _)) = b.more
      split <;> omega
  simp only [payout, List.mem_cons, List.mem_append, List.mem_reverse, List.mem_nil_iff, or_false]
  rw [k2, k3]
  exact ⟨k1, .inr (.inl rfl), .inr (.inr rfl)⟩

theorem stakeStep_plain_pays (p : PayIn) (D : Int) (a : PayAcc) (s : PStake) (hx : isX3 p s = false)
    (hb : s.bip ≠ 0) (hv : p.valStake ≠ 0) (h1 : 1 ≤ D * s.bip / p.valStake) :
    (stakeStep p D a s).pays = ⟨.delegator, s.owner, D * s.bip / p.valStake, s.coin⟩ :: a.pays := by
  rw [stakeStep_eq p D a s hb hv, stakeDue_plain p _ s hx, rewardOf_eq]
  exact if_neg (Int.not_lt.mpr h1)

theorem payoutAll_balance (height : Nat) (calcR safeR period : Int) (daoAddr devAddr : Addr) (vals : List PayVal) :
    sumBy (fun x => paidTotal x.2.payments + x.2.remainder + x.2.lost) (payoutAll height calcR safeR period daoAddr devAddr vals)
      = sumBy (fun v => v.accum) (vals.filter (·.hasCandidate))
        + sumBy (fun x => x.2.more) (payoutAll height calcR safeR period daoAddr devAddr vals) := by
  unfold payoutAll
  simp only
  rw [sumBy_map, sumBy_map, ← sumBy_add]
  exact sumBy_congr_mem _ _ _ fun v _ => payout_balance _

/-- Accrued 1000, commission 10 %, validator stake 100 with delegators 60 (plain) and 40 (plain): 100 + 100 + 80 + 432 + 288 = 1000. -/
example : (payout { accum := 1000, valStake := 100, commission := 10, rewardAddr := 7, daoAddr := 8, devAddr := 9, height := 50, calcReward := 5, safeReward := 5, period := 12, totalAccum := 1000, totalStakes := 0, stakes := [⟨1, 0, 60, 0⟩, ⟨2, 0, 40, 0⟩] }).payments.map (·.amount) = [80, 432, 288, 100, 100] := by decide

/-- The same with the second delegator locked (x3): it receives more, the difference and the extra taxes are `more`. -/
example : let o := payout { accum := 1000, valStake := 100, commission := 10, rewardAddr := 7, daoAddr := 8, devAddr := 9, height := 50, calcReward := 50, safeReward := 50, period := 12, totalAccum := 1000, totalStakes := 0, stakes := [⟨1, 0, 60, 0⟩, ⟨2, 0, 40, 60⟩] }
    (o.payments.map (·.amount), o.remainder, o.more, o.lost) = ([80, 432, 668, 148, 148], 0, 476, 0) := by decide

/-- Rounding leaves a remainder (7 accrued, three equal delegators of a stake of 3). -/
example : let o := payout { accum := 7, valStake := 3, commission := 0, rewardAddr := 7, daoAddr := 8, devAddr := 9, height := 50, calcReward := 0, safeReward := 0, period := 12, totalAccum := 7, totalStakes := 0, stakes := [⟨1, 0, 1, 0⟩, ⟨2, 0, 1, 0⟩, ⟨3, 0, 1, 0⟩] }
    (o.payments.map (·.amount), o.remainder) = ([0, 2, 2, 2, 0, 0], 1) := by decide

/-- The excluded point of `payout_remainder_nonneg`: stakes whose bip values exceed the validator's recorded stake
    make the remainder negative — the `panic("Negative remainder")` site of the code. -/
example : (payout { accum := 1000, valStake := 50, commission := 0, rewardAddr := 7, daoAddr := 8, devAddr := 9, height := 50, calcReward := 0, safeReward := 0, period := 12, totalAccum := 1000, totalStakes := 0, stakes := [⟨1, 0, 60, 0⟩, ⟨2, 0, 40, 0⟩] }).remainder = -800 := by decide

/-- The excluded point of `PayOK.calc3` (`calcReward > 3·safeReward`, impossible after `UpdatePriceFix`, which keeps
    `reward ≤ safeReward`): the proportional reward 240 of the locked stake is paid to nobody and is not in the remainder. -/
example : let o := payout { accum := 1000, valStake := 100, commission := 0, rewardAddr := 7, daoAddr := 8, devAddr := 9, height := 50, calcReward := 1000, safeReward := 1, period := 12, totalAccum := 1000, totalStakes := 0, stakes := [⟨1, 0, 30, 60⟩] }
    (o.payments.map (·.amount), o.remainder, o.more, o.lost) = ([0, -259, -259], 560, -718, 240) := by decide

end Minter
