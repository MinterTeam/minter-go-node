import MinterProofs.Bancor
/-
  C12: Bancor conversions follow the bonding-curve formulas.  The node computes them with `big.Float` powers (`formula.go`), of
  which there is no bit-exact model, so the claim is split.
  (a) The branches the node decides with integer arithmetic (`amount = 0`, `crr = 100`, selling the whole supply) are treated for
      all inputs, and every such result satisfies the exact certificate with tolerance 0: it *is* the truncated real formula.
  (b) Certificate soundness: whenever the exact certificate (`saleReturnCert` &c., evaluated by the driver on every result of the
      real Go code) accepts a result `r` with tolerance `δ`, `r` has the properties C12 demands, with explicit bounds in `δ`.
  Not proved: that the float pipeline is accepted by the certificate for ALL inputs.  `C12_partial` carries "the result is
  certified" as a hypothesis; the harness mode `bancor` checks it on every generated input (translation validation per input).
-/
namespace Minter

section
variable {v R : Int} {c : Nat}

/-! ## (a) Integer branches -/

theorem purchaseReturnInt_zero : purchaseReturnInt v R c 0 = some 0 := if_pos rfl
theorem purchaseAmountInt_zero : purchaseAmountInt v R c 0 = some 0 := if_pos rfl
theorem saleReturnInt_zero : saleReturnInt v R c 0 = some 0 := if_pos rfl
theorem saleAmountInt_zero : saleAmountInt v R c 0 = some 0 := if_pos rfl

theorem saleReturnInt_all (hv : 0 < v) : saleReturnInt v R c v = some R := by
  rw [saleReturnInt, if_neg hv.ne', if_pos rfl]

/-- `purchaseReturnInt`, `purchaseAmountInt` and `saleAmountInt` are this `if` by definition: an answer is `0` at amount `0`
    or the quotient at `crr = 100`. -/
theorem intBranch_inv {x q r : Int} {c : Nat} (h : (if x = 0 then some 0 else if c = 100 then some q else none) = some r) :
    x = 0 ∧ r = 0 ∨ c = 100 ∧ r = q := by
  split_ifs at h with h0 hc
  · exact Or.inl ⟨h0, (Option.some.inj h).symm⟩
  · exact Or.inr ⟨hc, (Option.some.inj h).symm⟩

theorem saleReturnInt_inv {a r : Int} (h : saleReturnInt v R c a = some r) :
    a = 0 ∧ r = 0 ∨ a = v ∧ r = R ∨ c = 100 ∧ r = R * a / v := by
  unfold saleReturnInt at h
  split_ifs at h with h0 hv hc
  · exact Or.inl ⟨h0, (Option.some.inj h).symm⟩
  · exact Or.inr (Or.inl ⟨hv, (Option.some.inj h).symm⟩)
  · exact Or.inr (Or.inr ⟨hc, (Option.some.inj h).symm⟩)

/-! Whenever an integer branch answers, the answer is the proportional formula (which is `0` at amount `0` and `R` at
    `a = v`); sign, range and monotonicity are read off the quotient. -/

theorem intBranch_eq {x q r : Int} {c : Nat} (hq : x = 0 → q = 0)
    (h : (if x = 0 then some 0 else if c = 100 then some q else none) = some r) : r = q := by
  rcases intBranch_inv h with ⟨h0, rfl⟩ | ⟨-, rfl⟩
  · exact (hq h0).symm
  · rfl

theorem purchaseReturnInt_eq {d r : Int} (h : purchaseReturnInt v R c d = some r) : r = v * d / R :=
  intBranch_eq (by rintro rfl; simp) h

theorem purchaseAmountInt_eq {w r : Int} (h : purchaseAmountInt v R c w = some r) : r = w * R / v :=
  intBranch_eq (by rintro rfl; simp) h

theorem saleAmountInt_eq {w r : Int} (h : saleAmountInt v R c w = some r) : r = w * v / R :=
  intBranch_eq (by rintro rfl; simp) h

theorem saleReturnInt_eq {a r : Int} (hv : v ≠ 0) (h : saleReturnInt v R c a = some r) : r = R * a / v := by
  rcases saleReturnInt_inv h with ⟨rfl, rfl⟩ | ⟨rfl, rfl⟩ | ⟨-, rfl⟩
  · simp
  · exact (Int.mul_ediv_cancel r hv).symm
  · rfl

theorem saleReturnInt_range {a r : Int} (hv : 0 < v) (hR : 0 < R) (ha : 0 ≤ a) (hav : a ≤ v)
    (h : saleReturnInt v R c a = some r) : 0 ≤ r ∧ r ≤ R := by
  rw [saleReturnInt_eq hv.ne' h]
  exact ⟨Int.ediv_nonneg (Int.mul_nonneg hR.le ha) hv.le,
    Int.ediv_le_of_le_mul hv (Int.mul_le_mul_of_nonneg_left hav hR.le)⟩

theorem saleAmountInt_le_supply {w r : Int} (hv : 0 < v) (hR : 0 < R) (hwR : w ≤ R)
    (h : saleAmountInt v R c w = some r) : r ≤ v := by
  rw [saleAmountInt_eq h]
  exact Int.ediv_le_of_le_mul hR ((Int.mul_le_mul_of_nonneg_right hwR hv.le).trans (mul_comm R v).le)

theorem saleReturnInt_mono {a a' r r' : Int} (hv : 0 < v) (hR : 0 < R) (ha : 0 ≤ a) (haa : a ≤ a') (hav : a' ≤ v)
    (h : saleReturnInt v R c a = some r) (h' : saleReturnInt v R c a' = some r') : r ≤ r' := by
  rw [saleReturnInt_eq hv.ne' h, saleReturnInt_eq hv.ne' h']
  exact Int.ediv_le_ediv hv (Int.mul_le_mul_of_nonneg_left haa hR.le)

theorem purchaseReturnInt_mono {d d' r r' : Int} (hv : 0 < v) (hR : 0 < R) (hd : 0 ≤ d) (hdd : d ≤ d')
    (h : purchaseReturnInt v R c d = some r) (h' : purchaseReturnInt v R c d' = some r') : r ≤ r' := by
  rw [purchaseReturnInt_eq h, purchaseReturnInt_eq h']
  exact Int.ediv_le_ediv hR (Int.mul_le_mul_of_nonneg_left hdd hv.le)

theorem purchaseAmountInt_mono {w w' r r' : Int} (hv : 0 < v) (hR : 0 < R) (hw : 0 ≤ w) (hww : w ≤ w')
    (h : purchaseAmountInt v R c w = some r) (h' : purchaseAmountInt v R c w' = some r') : r ≤ r' := by
  rw [purchaseAmountInt_eq h, purchaseAmountInt_eq h']
  exact Int.ediv_le_ediv hv (Int.mul_le_mul_of_nonneg_right hww hR.le)

theorem saleAmountInt_mono {w w' r r' : Int} (hv : 0 < v) (hR : 0 < R) (hw : 0 ≤ w) (hww : w ≤ w')
    (h : saleAmountInt v R c w = some r) (h' : saleAmountInt v R c w' = some r') : r ≤ r' := by
  rw [saleAmountInt_eq h, saleAmountInt_eq h']
  exact Int.ediv_le_ediv hR (Int.mul_le_mul_of_nonneg_right hww hv.le)

theorem roundTripInt_purchaseReturn_saleReturn {d b s : Int} (hv : 0 < v) (hR : 0 < R) (hd : 0 ≤ d)
    (hb : purchaseReturnInt v R 100 d = some b) (hs : saleReturnInt (v + b) (R + d) 100 b = some s) : s ≤ d := by
  obtain rfl := purchaseReturnInt_eq hb
  have hb0 : 0 ≤ v * d / R := Int.ediv_nonneg (Int.mul_nonneg hv.le hd) hR.le
  have hbR : v * d / R * R ≤ v * d := Int.ediv_mul_le _ hR.ne'
  rw [saleReturnInt_eq (by omega) hs]
  exact Int.ediv_le_of_le_mul (by omega) (by linarith only [hbR])

theorem roundTripInt_purchaseAmount_saleReturn {w p s : Int} (hv : 0 < v) (hR : 0 < R) (hw : 0 ≤ w)
    (hp : purchaseAmountInt v R 100 w = some p) (hs : saleReturnInt (v + w) (R + p) 100 w = some s) : s ≤ p := by
  have hlt : w * R < (p + 1) * v := by rw [purchaseAmountInt_eq hp]; exact Int.lt_ediv_add_one_mul_self _ hv
  rw [saleReturnInt_eq (by omega) hs]
  exact Int.lt_add_one_iff.mp (Int.ediv_lt_of_lt_mul (by omega) (by linarith only [hlt, hw]))

theorem roundTripInt_purchaseReturn_saleAmount {d b q : Int} (hv : 0 < v) (hR : 0 < R) (hd : 0 ≤ d)
    (hb : purchaseReturnInt v R 100 d = some b) (hq : saleAmountInt (v + b) (R + d) 100 d = some q) : b ≤ q := by
  have hbR : b * R ≤ v * d := by rw [purchaseReturnInt_eq hb]; exact Int.ediv_mul_le _ hR.ne'
  rw [saleAmountInt_eq hq]
  exact Int.le_ediv_of_mul_le (by omega) (by linarith only [hbR])

/-! ## (b) Certificate soundness -/

/-- The bounds certified for `r` and `r'` are `lo = r − δ` and `hi = r' + 1 + δ'`. -/
theorem le_of_lo_lt_hi {r r' δ δ' : Int} (h : r - δ < r' + 1 + δ') : r ≤ r' + δ + δ' := by omega

variable {a d w r δ : Int}

theorem saleReturnCert_nonneg (hv : 0 < v) (hR : 0 < R) (ha : 0 ≤ a) (hav : a ≤ v)
    (h : saleReturnCert v R c a r δ = true) : 0 < r + 1 + δ :=
  sale_lo_lt_hi hv hR.le (Int.sub_nonneg_of_le hav) le_rfl (Int.sub_le_self v ha) (Or.inl le_rfl)
    ((saleReturnCert_iff ..).mp h).2

theorem saleReturnCert_le_reserve (hR : 0 < R) (h : saleReturnCert v R c a r δ = true) : r - δ ≤ R :=
  ((saleReturnCert_iff ..).mp h).1.elim (fun h1 => h1.trans hR.le) And.left

theorem saleReturnCert_mono {a' r' δ' : Int} (hv : 0 < v) (hR : 0 < R) (ha : 0 ≤ a) (haa : a ≤ a')
    (hav : a' ≤ v) (h : saleReturnCert v R c a r δ = true) (h' : saleReturnCert v R c a' r' δ' = true) :
    r ≤ r' + δ + δ' :=
  le_of_lo_lt_hi (sale_lo_lt_hi hv hR.le (Int.sub_nonneg_of_le hav) (Int.sub_le_sub_left haa v) (Int.sub_le_self v ha)
    ((saleReturnCert_iff ..).mp h).1 ((saleReturnCert_iff ..).mp h').2)

theorem saleReturnCert_all (hv : 0 < v) (hR : 0 < R) :
    saleReturnCert v R c v r δ = true ↔ (r - δ ≤ R ∧ R < r + 1 + δ) := by
  have hK : 0 < v ^ 100 := Int.pow_pos hv
  rw [saleReturnCert_iff, SaleCert, sub_self, zero_pow (by decide), zero_mul]
  constructor
  · rintro ⟨h1, h2⟩
    exact ⟨h1.elim (fun h1 => h1.trans hR.le) And.left,
      sale_lt hK le_rfl (Int.mul_nonneg (Int.pow_nonneg (Int.sub_self R).ge) hK.le) h2⟩
  · rintro ⟨h1, h2⟩
    exact ⟨Or.inr ⟨h1, Int.mul_nonneg (Int.pow_nonneg (by omega)) hK.le⟩, Or.inl h2⟩

theorem saleReturnCert_zero (hv : 0 < v) (hR : 0 < R) (hc : 0 < c) :
    saleReturnCert v R c 0 r 0 = true ↔ r = 0 := by
  have h0 : saleReturnCert v R c 0 0 0 = true := by
    simp only [saleReturnCert_iff, sub_zero, add_zero, zero_add]
    exact sale_zero hc hR hv
  refine ⟨fun h => ?_, fun h => h ▸ h0⟩
  -- two results certified at the same amount differ by at most the two tolerances, here `0`
  have h1 := saleReturnCert_mono hv hR le_rfl le_rfl hv.le h h0
  have h2 := saleReturnCert_mono hv hR le_rfl le_rfl hv.le h0 h
  omega

theorem purchaseReturnCert_nonneg (hv : 0 < v) (hR : 0 < R) (hd : 0 ≤ d)
    (h : purchaseReturnCert v R c d r δ = true) : 0 < r + 1 + δ :=
  purchase_lo_lt_hi hR hv.le (Int.le_add_of_nonneg_right hd) le_rfl (Or.inl le_rfl) ((purchaseReturnCert_iff ..).mp h).2

theorem purchaseReturnCert_mono {d' r' δ' : Int} (hv : 0 < v) (hR : 0 < R) (hd : 0 ≤ d) (hdd : d ≤ d')
    (h : purchaseReturnCert v R c d r δ = true) (h' : purchaseReturnCert v R c d' r' δ' = true) :
    r ≤ r' + δ + δ' :=
  le_of_lo_lt_hi (purchase_lo_lt_hi hR hv.le (Int.le_add_of_nonneg_right hd) (Int.add_le_add_left hdd R)
    ((purchaseReturnCert_iff ..).mp h).1 ((purchaseReturnCert_iff ..).mp h').2)

theorem purchaseAmountCert_nonneg (hv : 0 < v) (hR : 0 < R) (hw : 0 ≤ w)
    (h : purchaseAmountCert v R c w r δ = true) : 0 < r + 1 + δ :=
  purchase_lo_lt_hi hv hR.le (Int.le_add_of_nonneg_left hw) le_rfl (Or.inl le_rfl) ((purchaseAmountCert_iff ..).mp h).2

theorem purchaseAmountCert_mono {w' r' δ' : Int} (hv : 0 < v) (hR : 0 < R) (hw : 0 ≤ w) (hww : w ≤ w')
    (h : purchaseAmountCert v R c w r δ = true) (h' : purchaseAmountCert v R c w' r' δ' = true) :
    r ≤ r' + δ + δ' :=
  le_of_lo_lt_hi (purchase_lo_lt_hi hv hR.le (Int.le_add_of_nonneg_left hw) (Int.add_le_add_right hww v)
    ((purchaseAmountCert_iff ..).mp h).1 ((purchaseAmountCert_iff ..).mp h').2)

theorem saleAmountCert_nonneg (hv : 0 < v) (hR : 0 < R) (hw : 0 ≤ w) (hwR : w ≤ R)
    (h : saleAmountCert v R c w r δ = true) : 0 < r + 1 + δ :=
  sale_lo_lt_hi hR hv.le (Int.sub_nonneg_of_le hwR) le_rfl (Int.sub_le_self R hw) (Or.inl le_rfl)
    ((saleAmountCert_iff ..).mp h).2

theorem saleAmountCert_le_supply (hv : 0 < v) (h : saleAmountCert v R c w r δ = true) : r - δ ≤ v :=
  ((saleAmountCert_iff ..).mp h).1.elim (fun h1 => h1.trans hv.le) And.left

theorem saleAmountCert_mono {w' r' δ' : Int} (hv : 0 < v) (hR : 0 < R) (hw : 0 ≤ w) (hww : w ≤ w') (hwR : w' ≤ R)
    (h : saleAmountCert v R c w r δ = true) (h' : saleAmountCert v R c w' r' δ' = true) :
    r ≤ r' + δ + δ' :=
  le_of_lo_lt_hi (sale_lo_lt_hi hR hv.le (Int.sub_nonneg_of_le hwR) (Int.sub_le_sub_left hww R) (Int.sub_le_self R hw)
    ((saleAmountCert_iff ..).mp h).1 ((saleAmountCert_iff ..).mp h').2)

/-! ## (b) Round trips on certified results -/

/-- Deposit `d`, receive a certified `r ≥ 0` coins (tolerance `δ`), sell them in the updated coin `(v+r, R+d)` for a
    certified `s` (tolerance `δ'`).  Then `(s − δ' − d)·(v + r) ≤ 100·δ·R`: what comes back exceeds the deposit by at most
    `δ' + 100·δ·R/(v+r)` pips — `δ` coins too many are worth at most `100·δ·R/(v+r)` in reserve.  With `δ = 0`
    (the purchase was truncated correctly) `s ≤ d + δ'`. -/
theorem roundTrip_purchaseReturn_saleReturn {v R : Int} {c : Nat} {d r δ s δ' : Int}
    (hv : 0 < v) (hR : 0 < R) (hc1 : 1 ≤ c) (hc : c ≤ 100) (hd : 0 ≤ d) (hr : 0 ≤ r) (hδ : 0 ≤ δ)
    (hp : purchaseReturnCert v R c d r δ = true) (hs : saleReturnCert (v + r) (R + d) c r s δ' = true) :
    (s - δ' - d) * (v + r) ≤ 100 * δ * R := by
  rw [purchaseReturnCert_iff] at hp
  rw [saleReturnCert_iff] at hs
  have hV : 0 < v + r := Int.add_pos_of_pos_of_nonneg hv hr
  rcases hs.1 with h1 | ⟨h1R, h1⟩
  · -- s − δ' ≤ 0 ≤ d
    exact (Int.mul_nonpos_of_nonpos_of_nonneg (Int.sub_nonpos_of_le (h1.trans hd)) hV.le).trans
      (Int.mul_nonneg (Int.mul_nonneg (by decide) hδ) hR.le)
  · rw [add_sub_cancel_right] at h1
    -- the effective shortfall m = min δ r satisfies (v + r − m)^100·R^c ≤ (R+d)^c·v^100
    obtain ⟨m, hm0, hmδ, hmr, hm⟩ : ∃ m : Int, 0 ≤ m ∧ m ≤ δ ∧ m ≤ r ∧
        (v + r - m) ^ 100 * R ^ c ≤ (R + d) ^ c * v ^ 100 := by
      by_cases hlo : r - δ ≤ 0
      · refine ⟨r, hr, sub_nonpos.mp hlo, le_rfl, ?_⟩
        rw [add_sub_cancel_right, mul_comm]
        exact ipow_mul_le hR.le (Int.le_add_of_nonneg_right hd) hv.le c 100
      · refine ⟨δ, hδ, le_rfl, by omega, ?_⟩
        rw [add_sub_assoc]
        exact hp.1.resolve_left hlo
    -- chain the two certificates: R·(v + r − 100 m) ≤ X·(v + r) with X = R + d − (s − δ')
    have hkey := roundtrip_key (R + d - (s - δ')) (v + r) R m c 100 hc1 (by decide) (Int.sub_nonneg_of_le h1R) hV hR hm0
      (hmr.trans (Int.le_add_of_nonneg_left hv.le)) (hm.trans ((mul_comm _ _).le.trans h1))
    have hmR : m * R ≤ δ * R := Int.mul_le_mul_of_nonneg_right hmδ hR.le
    push_cast at hkey
    linarith only [hkey, hmR]

theorem roundTrip_purchaseAmount_saleReturn {v R : Int} {c : Nat} {w p δ s δ' : Int}
    (hv : 0 < v) (hR : 0 < R) (hw : 0 ≤ w) (hp0 : 0 ≤ p) (hδ : 0 ≤ δ)
    (hp : purchaseAmountCert v R c w p δ = true) (hs : saleReturnCert (v + w) (R + p) c w s δ' = true) :
    s ≤ p + δ + δ' := by
  have hhi := purchaseAmountCert_nonneg hv hR hw hp
  rw [purchaseAmountCert_iff] at hp
  rw [saleReturnCert_iff] at hs
  obtain ⟨hb, h2⟩ := hp.2
  rcases hs.1 with h1 | ⟨h1R, h1⟩
  · omega
  · rw [add_sub_cancel_right] at h1
    rw [add_comm w v] at h2
    -- (R+p)^c·R^c < X^c·(R+hi)^c with X = R + p − (s − δ'), hi = p + 1 + δ
    have e := mul_chain (Int.pow_pos hv) (Int.pow_pos (Int.add_pos_of_pos_of_nonneg hR hp0))
      (Int.pow_pos (Int.add_pos_of_pos_of_nonneg hv hw)) (Int.pow_pos hR) h1 h2
    rw [← mul_pow, ← mul_pow] at e
    have e3 := lt_of_ipow_lt (Int.mul_nonneg (Int.sub_nonneg_of_le h1R) hb) e
    -- if s − δ' ≥ hi then X ≤ R + p − hi and X·(R+hi) ≤ (R+p−hi)·(R+hi) = (R+p)·R − hi·(hi−p)
    by_contra hcon
    have h5 := Int.mul_le_mul_of_nonneg_right (show R + p - (s - δ') ≤ R + p - (p + 1 + δ) by omega) hb
    have h7 : 0 ≤ (p + 1 + δ) * (p + 1 + δ - p) := Int.mul_nonneg hhi.le (by omega)
    linarith only [e3, h5, h7]

/-! ## The integer branches are the truncated real formula: they satisfy the certificate with tolerance 0

  At amount `0` the bounds `0 ≤ · < 1` bracket `0` for every crr; at `crr = 100` both exponents are `100` and the bounds
  `q ≤ · < q + 1` are the two defining inequalities of the quotient `q`. -/

theorem saleReturnInt_cert {a r : Int} (hv : 0 < v) (hR : 0 < R) (hc : 0 < c) (ha : 0 ≤ a) (hav : a ≤ v)
    (h : saleReturnInt v R c a = some r) : saleReturnCert v R c a r 0 = true := by
  rcases saleReturnInt_inv h with ⟨rfl, rfl⟩ | ⟨rfl, rfl⟩ | ⟨rfl, rfl⟩
  · exact (saleReturnCert_zero hv hR hc).mpr rfl
  · exact (saleReturnCert_all hv hR).mpr ⟨by omega, by omega⟩
  · simp only [saleReturnCert_iff, sub_zero, add_zero]
    exact sale_exact (by decide) hR hv hav (mul_comm R a)

theorem purchaseReturnInt_cert {d r : Int} (hv : 0 < v) (hR : 0 < R) (hc : 0 < c) (hd : 0 ≤ d)
    (h : purchaseReturnInt v R c d = some r) : purchaseReturnCert v R c d r 0 = true := by
  simp only [purchaseReturnCert_iff, sub_zero, add_zero]
  rcases intBranch_inv h with ⟨rfl, rfl⟩ | ⟨rfl, rfl⟩
  · rw [add_zero, zero_add]
    exact purchase_zero (by decide) hv hR
  · exact purchase_exact (by decide) hv hR hd (mul_comm v d)

theorem purchaseAmountInt_cert {w r : Int} (hv : 0 < v) (hR : 0 < R) (hc : 0 < c) (hw : 0 ≤ w)
    (h : purchaseAmountInt v R c w = some r) : purchaseAmountCert v R c w r 0 = true := by
  simp only [purchaseAmountCert_iff, sub_zero, add_zero]
  rcases intBranch_inv h with ⟨rfl, rfl⟩ | ⟨rfl, rfl⟩
  · rw [zero_add, zero_add]
    exact purchase_zero hc hR hv
  · rw [add_comm w v]
    exact purchase_exact (by decide) hR hv hw rfl

theorem saleAmountInt_cert {w r : Int} (hv : 0 < v) (hR : 0 < R) (hc : 0 < c) (hw : 0 ≤ w) (hwR : w ≤ R)
    (h : saleAmountInt v R c w = some r) : saleAmountCert v R c w r 0 = true := by
  simp only [saleAmountCert_iff, sub_zero, add_zero]
  rcases intBranch_inv h with ⟨rfl, rfl⟩ | ⟨rfl, rfl⟩
  · rw [zero_add, sub_zero]
    exact sale_zero (by decide) hv hR
  · exact sale_exact (by decide) hv hR hwR rfl

/-! ## The tolerances granted to the float pipeline are positive -/

theorem pow2_pos (k : Nat) : 0 < pow2 k := Int.pow_pos (by decide)

/-- All four tolerances are `result/2^j + scale/2^k + 1` with a non-negative scale. -/
theorem tol_pos {r s : Int} (hs : 0 ≤ s) (j k : Nat) : 0 < max r 0 / pow2 j + s / pow2 k + 1 := by
  have h1 := Int.ediv_nonneg (le_max_right r 0) (pow2_pos j).le
  have h2 := Int.ediv_nonneg hs (pow2_pos k).le
  omega

theorem saleReturnTol_pos {R r : Int} (hR : 0 ≤ R) : 0 < saleReturnTol R r := tol_pos hR 43 87

theorem purchaseReturnTol_pos {v r : Int} (hv : 0 ≤ v) : 0 < purchaseReturnTol v r := tol_pos hv 37 89

theorem purchaseAmountTol_pos {R r : Int} (hR : 0 ≤ R) : 0 < purchaseAmountTol R r := tol_pos hR 33 86

theorem saleAmountTol_pos {v R w r : Int} (hv : 0 ≤ v) (hR : 0 ≤ R) : 0 < saleAmountTol v R w r :=
  tol_pos (Int.ediv_nonneg (Int.mul_nonneg hv hR) (le_trans (by decide) (le_max_right (R - w) 1))) 43 89

end

/-- What the harness establishes for one call of the real code: the result is what the integer branch of the model says,
    or it is accepted by the exact certificate with the fixed tolerance. -/
def SaleReturnOk (v R : Int) (c : Nat) (a r : Int) : Prop :=
  saleReturnInt v R c a = some r ∨ saleReturnCert v R c a r (saleReturnTol R r) = true
def PurchaseReturnOk (v R : Int) (c : Nat) (d r : Int) : Prop :=
  purchaseReturnInt v R c d = some r ∨ purchaseReturnCert v R c d r (purchaseReturnTol v r) = true
def PurchaseAmountOk (v R : Int) (c : Nat) (w r : Int) : Prop :=
  purchaseAmountInt v R c w = some r ∨ purchaseAmountCert v R c w r (purchaseAmountTol R r) = true
def SaleAmountOk (v R : Int) (c : Nat) (w r : Int) : Prop :=
  saleAmountInt v R c w = some r ∨ saleAmountCert v R c w r (saleAmountTol v R w r) = true

/-! What `…Ok` gives, whichever the conversion (`I` its integer branch, `C` its certificate, `t` its tolerance): an
    integer-branch result is certified with tolerance 0, any other with `t`, so the result is certified with some
    `0 ≤ δ ≤ t`; and a bound that an envelope lemma gives in terms of `δ` is a bound in terms of `t`. -/

section
variable {I I' : Option Int} {C C' : Int → Bool} {r r' S t t' : Int}

theorem exists_tol (ht : 0 < t) (h0 : I = some r → C 0 = true) (h : I = some r ∨ C t = true) :
    ∃ δ, 0 ≤ δ ∧ δ ≤ t ∧ C δ = true :=
  h.elim (fun h => ⟨0, le_rfl, ht.le, h0 h⟩) fun h => ⟨t, ht.le, le_rfl, h⟩

theorem neg_tol_le (ht : 0 < t) (h0 : I = some r → C 0 = true) (hb : ∀ δ, C δ = true → 0 < r + 1 + δ)
    (h : I = some r ∨ C t = true) : -t ≤ r := by
  obtain ⟨δ, -, hδ, hc⟩ := exists_tol ht h0 h
  have := hb δ hc
  omega

theorem le_add_tol (ht : 0 < t) (h0 : I = some r → C 0 = true) (hb : ∀ δ, C δ = true → r - δ ≤ S)
    (h : I = some r ∨ C t = true) : r ≤ S + t := by
  obtain ⟨δ, -, hδ, hc⟩ := exists_tol ht h0 h
  have := hb δ hc
  omega

theorem le_add_tol₂ (ht : 0 < t) (ht' : 0 < t') (h0 : I = some r → C 0 = true) (h0' : I' = some r' → C' 0 = true)
    (hb : ∀ δ δ', C δ = true → C' δ' = true → r ≤ r' + δ + δ') (h : I = some r ∨ C t = true)
    (h' : I' = some r' ∨ C' t' = true) : r ≤ r' + t + t' := by
  obtain ⟨δ, -, hδ, hc⟩ := exists_tol ht h0 h
  obtain ⟨δ', -, hδ', hc'⟩ := exists_tol ht' h0' h'
  have := hb δ δ' hc hc'
  omega

end

/-- For every supply `v > 0`, reserve `R > 0`, reserve ratio `1 ≤ c ≤ 100` and amounts in range, *if* the
    results of the four conversions are certified (`…Ok`: integer branch of the model, or accepted by the exact certificate
    with the fixed tolerance — this is what the harness checks for every result of the real code), then:

    1. nothing is negative beyond the tolerance `−δ ≤ r` (and the exact monitor `0 ≤ r` is evaluated next to the certificate);
    2. a sale never exceeds the reserve beyond the tolerance, the coins to sell never exceed the supply;
    3. results do not decrease as the amount grows, up to the two tolerances;
    4. selling the entire supply returns exactly the reserve (this branch is integer arithmetic);
    5. buying and then selling what was bought never returns more than was paid beyond the tolerances.

    Missing for the full property: `…Ok` for **all** inputs, i.e. the accuracy of Go's 100-bit `big.Float` `Pow`
    (`Exp(y·Log x)`, Newton seeded by float64 `math.Exp`), which needs a bit-exact model of `math.Exp`. -/
theorem C12_partial (v R : Int) (c : Nat) (hv : 0 < v) (hR : 0 < R) (hc1 : 1 ≤ c) (hc : c ≤ 100) :
    -- saleReturn
    (∀ a r, 0 ≤ a → a ≤ v → SaleReturnOk v R c a r →
        -saleReturnTol R r ≤ r ∧ r ≤ R + saleReturnTol R r) ∧
    (∀ a a' r r', 0 ≤ a → a ≤ a' → a' ≤ v → SaleReturnOk v R c a r → SaleReturnOk v R c a' r' →
        r ≤ r' + saleReturnTol R r + saleReturnTol R r') ∧
    (∀ r, saleReturnInt v R c v = some r → r = R) ∧
    -- purchaseReturn
    (∀ d r, 0 ≤ d → PurchaseReturnOk v R c d r → -purchaseReturnTol v r ≤ r) ∧
    (∀ d d' r r', 0 ≤ d → d ≤ d' → PurchaseReturnOk v R c d r → PurchaseReturnOk v R c d' r' →
        r ≤ r' + purchaseReturnTol v r + purchaseReturnTol v r') ∧
    -- purchaseAmount
    (∀ w r, 0 ≤ w → PurchaseAmountOk v R c w r → -purchaseAmountTol R r ≤ r) ∧
    (∀ w w' r r', 0 ≤ w → w ≤ w' → PurchaseAmountOk v R c w r → PurchaseAmountOk v R c w' r' →
        r ≤ r' + purchaseAmountTol R r + purchaseAmountTol R r') ∧
    -- saleAmount
    (∀ w r, 0 ≤ w → w ≤ R → SaleAmountOk v R c w r →
        -saleAmountTol v R w r ≤ r ∧ r ≤ v + saleAmountTol v R w r) ∧
    (∀ w w' r r', 0 ≤ w → w ≤ w' → w' ≤ R → SaleAmountOk v R c w r → SaleAmountOk v R c w' r' →
        r ≤ r' + saleAmountTol v R w r + saleAmountTol v R w' r') ∧
    -- buy, then sell what was bought
    (∀ d r s, 0 ≤ d → 0 ≤ r → PurchaseReturnOk v R c d r → SaleReturnOk (v + r) (R + d) c r s →
        (s - saleReturnTol (R + d) s - d) * (v + r) ≤ 100 * purchaseReturnTol v r * R) ∧
    (∀ w p s, 0 ≤ w → 0 ≤ p → PurchaseAmountOk v R c w p → SaleReturnOk (v + w) (R + p) c w s →
        s ≤ p + purchaseAmountTol R p + saleReturnTol (R + p) s) := by
  have hc0 : 0 < c := hc1
  refine ⟨?_, ?_, ?_, ?_, ?_, ?_, ?_, ?_, ?_, ?_, ?_⟩
  · intro a r ha hav h
    have h0 := saleReturnInt_cert (r := r) hv hR hc0 ha hav
    exact ⟨neg_tol_le (saleReturnTol_pos hR.le) h0 (fun _ => saleReturnCert_nonneg hv hR ha hav) h,
      le_add_tol (saleReturnTol_pos hR.le) h0 (fun _ => saleReturnCert_le_reserve hR) h⟩
  · intro a a' r r' ha haa hav
    exact le_add_tol₂ (saleReturnTol_pos hR.le) (saleReturnTol_pos hR.le) (saleReturnInt_cert hv hR hc0 ha (haa.trans hav))
      (saleReturnInt_cert hv hR hc0 (ha.trans haa) hav) fun _ _ => saleReturnCert_mono hv hR ha haa hav
  · intro r h
    exact (Option.some.inj ((saleReturnInt_all hv).symm.trans h)).symm
  · intro d r hd
    exact neg_tol_le (purchaseReturnTol_pos hv.le) (purchaseReturnInt_cert hv hR hc0 hd) fun _ =>
      purchaseReturnCert_nonneg hv hR hd
  · intro d d' r r' hd hdd
    exact le_add_tol₂ (purchaseReturnTol_pos hv.le) (purchaseReturnTol_pos hv.le) (purchaseReturnInt_cert hv hR hc0 hd)
      (purchaseReturnInt_cert hv hR hc0 (hd.trans hdd)) fun _ _ => purchaseReturnCert_mono hv hR hd hdd
  · intro w r hw
    exact neg_tol_le (purchaseAmountTol_pos hR.le) (purchaseAmountInt_cert hv hR hc0 hw) fun _ =>
      purchaseAmountCert_nonneg hv hR hw
  · intro w w' r r' hw hww
    exact le_add_tol₂ (purchaseAmountTol_pos hR.le) (purchaseAmountTol_pos hR.le) (purchaseAmountInt_cert hv hR hc0 hw)
      (purchaseAmountInt_cert hv hR hc0 (hw.trans hww)) fun _ _ => purchaseAmountCert_mono hv hR hw hww
  · intro w r hw hwR h
    have h0 := saleAmountInt_cert (r := r) hv hR hc0 hw hwR
    exact ⟨neg_tol_le (saleAmountTol_pos hv.le hR.le) h0 (fun _ => saleAmountCert_nonneg hv hR hw hwR) h,
      le_add_tol (saleAmountTol_pos hv.le hR.le) h0 (fun _ => saleAmountCert_le_supply hv) h⟩
  · intro w w' r r' hw hww hwR
    exact le_add_tol₂ (saleAmountTol_pos hv.le hR.le) (saleAmountTol_pos hv.le hR.le)
      (saleAmountInt_cert hv hR hc0 hw (hww.trans hwR)) (saleAmountInt_cert hv hR hc0 (hw.trans hww) hwR) fun _ _ =>
      saleAmountCert_mono hv hR hw hww hwR
  · intro d r s hd hr h hs
    have hV : 0 < v + r := Int.add_pos_of_pos_of_nonneg hv hr
    have hRd : 0 < R + d := Int.add_pos_of_pos_of_nonneg hR hd
    obtain ⟨δ, hδ0, hδ, hcert⟩ := exists_tol (purchaseReturnTol_pos hv.le) (purchaseReturnInt_cert hv hR hc0 hd) h
    obtain ⟨δ', -, hδ', hcert'⟩ := exists_tol (saleReturnTol_pos hRd.le)
      (saleReturnInt_cert hV hRd hc0 hr (Int.le_add_of_nonneg_left hv.le)) hs
    calc (s - saleReturnTol (R + d) s - d) * (v + r) ≤ (s - δ' - d) * (v + r) :=
          Int.mul_le_mul_of_nonneg_right (by omega) hV.le
      _ ≤ 100 * δ * R := roundTrip_purchaseReturn_saleReturn hv hR hc1 hc hd hr hδ0 hcert hcert'
      _ ≤ 100 * purchaseReturnTol v r * R :=
          Int.mul_le_mul_of_nonneg_right (Int.mul_le_mul_of_nonneg_left hδ (by decide)) hR.le
  · intro w p s hw hp h hs
    have hRp : 0 < R + p := Int.add_pos_of_pos_of_nonneg hR hp
    obtain ⟨δ, hδ0, hδ, hcert⟩ := exists_tol (purchaseAmountTol_pos hR.le) (purchaseAmountInt_cert hv hR hc0 hw) h
    obtain ⟨δ', -, hδ', hcert'⟩ := exists_tol (saleReturnTol_pos hRp.le)
      (saleReturnInt_cert (Int.add_pos_of_pos_of_nonneg hv hw) hRp hc0 hw (Int.le_add_of_nonneg_left hv.le)) hs
    have := roundTrip_purchaseAmount_saleReturn hv hR hw hp hδ0 hcert hcert'
    omega

/-! ## Non-vacuity: concrete certified instances (small numbers, evaluated by the kernel) -/

-- v = 1000, R = 500, crr 50: sell 100 → 500·(1 − 0.9²) = 95 exactly; buy for 100 → 1000·(√1.2 − 1) = 95.4…
example : saleReturnCert 1000 500 50 100 95 0 = true := by decide +kernel
example : saleReturnCert 1000 500 50 100 94 0 = false := by decide +kernel
example : saleReturnCert 1000 500 50 100 96 0 = false := by decide +kernel
example : saleReturnCert 1000 500 50 100 96 1 = true := by decide +kernel
example : purchaseReturnCert 1000 500 50 100 95 0 = true := by decide +kernel
example : purchaseReturnCert 1000 500 50 100 96 0 = false := by decide +kernel
-- buy exactly 100 → 500·(1.1² − 1) = 105; coins to sell for 95 → 1000·(1 − √0.81) = 100
example : purchaseAmountCert 1000 500 50 100 105 0 = true := by decide +kernel
example : purchaseAmountCert 1000 500 50 100 104 0 = false := by decide +kernel
example : saleAmountCert 1000 500 50 95 100 0 = true := by decide +kernel
example : saleAmountCert 1000 500 50 95 99 0 = false := by decide +kernel
-- a negative "result" is never certified, nor one above the reserve
example : purchaseReturnCert 1000 500 50 100 (-2100) 0 = false := by decide +kernel
example : saleReturnCert 1000 500 50 999 501 0 = false := by decide +kernel
-- the hypotheses of `C12_partial` are satisfiable, integer branch and float branch
example : SaleReturnOk 1000 500 50 100 95 := Or.inr (by decide +kernel)
example : SaleReturnOk 1000 500 50 1000 500 := Or.inl (by decide +kernel)
example : PurchaseReturnOk 1000 500 50 100 95 := Or.inr (by decide +kernel)
example : PurchaseAmountOk 1000 500 50 100 105 := Or.inr (by decide +kernel)
example : SaleAmountOk 1000 500 50 95 100 := Or.inr (by decide +kernel)
-- round trip: buy 95 for 100, sell 95 in (1095, 600): 600·(1 − (1000/1095)²) = 99.59… → 99 ≤ 100
example : saleReturnCert 1095 600 50 95 99 0 = true := by decide +kernel
example : saleReturnInt 1000 500 100 100 = some 50 := by decide +kernel
example : purchaseReturnInt 1000 500 100 100 = some 200 := by decide +kernel

end Minter
