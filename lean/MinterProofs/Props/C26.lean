import MinterModel.Tx
import MinterProofs.Props.C04
/-
  C26 (each signed transaction is charged at most once). True after an acceptance: nonces only grow along any delivery
  history (`Reach`), so the same bytes are stopped by the nonce check of the prologue, and a prologue rejection makes no move.
  False after a failure inside the handler (known finding F4): the failure fee is charged and the nonce kept, so the same
  bytes pass the prologue again and pay again; `C26_failed_tx_charged_again` is a witness (a RemoveLimitOrder whose sender
  cannot afford the commission: two deliveries, two fees).
-/
namespace Minter

inductive Reach (P : Params) (o : Oracle) : State → State → Prop
  | refl (s : State) : Reach P o s s
  | step (s s1 s2 : State) (b : Nat) (t : TxIn) (out : Outcome) :
      deliverTx P o s b t = .ok out → applyChecked s out.plan = some s1 → Reach P o s1 s2 → Reach P o s s2

theorem deliver_nonce_mono (P : Params) (o : Oracle) (s s' : State) (b : Nat) (t : TxIn) (out : Outcome)
    (h : deliverTx P o s b t = .ok out) (ha : applyChecked s out.plan = some s') (x : Addr) : nonceOf s x ≤ nonceOf s' x := by
  have h4 := C04_nonce_effect P o s s' b t out h ha
  by_cases hc : out.code = 0
  · have := h4.1 hc
    by_cases hx : x = t.sender
    · subst hx; omega
    · rw [this.2 x hx]; exact Nat.le_refl _
  · rw [h4.2 hc x]; exact Nat.le_refl _

theorem reach_nonce_mono (P : Params) (o : Oracle) (s s' : State) (h : Reach P o s s') (x : Addr) : nonceOf s x ≤ nonceOf s' x := by
  induction h with
  | refl s => exact Nat.le_refl _
  | step s s1 s2 b t out hd ha _ ih => exact Nat.le_trans (deliver_nonce_mono P o s s1 b t out hd ha x) ih

theorem C26_after_success_free (P : Params) (o : Oracle) (s s1 s2 : State) (b b' : Nat) (t : TxIn) (out : Outcome)
    (h : deliverTx P o s b t = .ok out) (hc : out.code = 0) (ha : applyChecked s out.plan = some s1)
    (hr : Reach P o s1 s2) :
    ∃ c, c ≠ 0 ∧ deliverTx P o s2 b' t = .ok { code := c, moves := [], tags := [] } := by
  have hn := (C04_nonce_effect P o s s1 b t out h ha).1 hc
  have hord := C04_accept_in_order P o s b t out h hc
  have hm := reach_nonce_mono P o s1 s2 hr t.sender
  apply C04_replay_rejected
  omega

theorem C26_prologue_reject_free (P : Params) (o : Oracle) (s : State) (b : Nat) (t : TxIn) (c : Nat)
    (hp : prologue P s b t = some c) : deliverTx P o s b t = .ok { code := c, moves := [], tags := [] } := by
  unfold deliverTx; rw [hp]; rfl

theorem C26_accepted_at_most_once (P : Params) (o : Oracle) (s s1 s2 : State) (b b' : Nat) (t : TxIn) (out out' : Outcome)
    (h : deliverTx P o s b t = .ok out) (hc : out.code = 0) (ha : applyChecked s out.plan = some s1)
    (hr : Reach P o s1 s2) (h' : deliverTx P o s2 b' t = .ok out') : out'.code ≠ 0 ∧ out'.moves = [] := by
  obtain ⟨c, hc0, hd⟩ := C26_after_success_free P o s s1 s2 b b' t out h hc ha hr
  rw [hd] at h'
  cases h'
  exact ⟨hc0, rfl⟩

/-! ### The part of the property that is false in the code (F4) -/

/-- The conclusion of `C26_failed_tx_charged_again` as a Boolean, so that the witness is checked by kernel evaluation. -/
def chargedTwice (P : Params) (o : Oracle) (s : State) (b : Nat) (t : TxIn) : Bool :=
  match deliverTx P o s b t with
  | .error _ => false
  | .ok o1 =>
  match applyChecked s o1.plan with
  | none => false
  | some s1 =>
  match deliverTx P o s1 b t with
  | .error _ => false
  | .ok o2 =>
  match applyChecked s1 o2.plan with
  | none => false
  | some s2 =>
    o1.code != 0 && decide (balanceOf s1 t.sender t.comCoin < balanceOf s t.sender t.comCoin) &&
    nonceOf s1 t.sender == nonceOf s t.sender && o2.code != 0 &&
    decide (balanceOf s2 t.sender t.comCoin < balanceOf s1 t.sender t.comCoin)

theorem chargedTwice_spec (P : Params) (o : Oracle) (s : State) (b : Nat) (t : TxIn) (h : chargedTwice P o s b t = true) :
    ∃ (o1 o2 : Outcome) (s1 s2 : State),
      deliverTx P o s b t = .ok o1 ∧ o1.code ≠ 0 ∧ applyChecked s o1.plan = some s1 ∧
      balanceOf s1 t.sender t.comCoin < balanceOf s t.sender t.comCoin ∧ nonceOf s1 t.sender = nonceOf s t.sender ∧
      deliverTx P o s1 b t = .ok o2 ∧ o2.code ≠ 0 ∧ applyChecked s1 o2.plan = some s2 ∧
      balanceOf s2 t.sender t.comCoin < balanceOf s1 t.sender t.comCoin := by
  unfold chargedTwice at h
  split at h
  · cases h
  next o1 h1 =>
  split at h
  · cases h
  next s1 ha1 =>
  split at h
  · cases h
  next o2 h2 =>
  split at h
  · cases h
  next s2 ha2 =>
  simp only [Bool.and_eq_true, bne_iff_ne, ne_eq, decide_eq_true_eq, beq_iff_eq] at h
  obtain ⟨⟨⟨⟨hc1, hb1⟩, hn1⟩, hc2⟩, hb2⟩ := h
  exact ⟨o1, o2, s1, s2, h1, hc1, ha1, hb1, hn1, h2, hc2, ha2, hb2⟩

/-- The witness: 50 base-coin pips, commission 100, failed-transaction fee 10. -/
def f4State : State := { balances := [((1, 0), 50)], commission := [("remove_limit_order", 100), ("failed_tx", 10)] }
def f4Tx : TxIn := { dec := true, rawLen := 100, typ := 36, nonce := 1, chain := 2, gasPrice := 1, sigOk := true, sender := 1 }

/-- F4: the clause "any later delivery after the first is rejected at no cost, whether the first delivery succeeded or failed"
    of C26 does not hold for the code. -/
theorem C26_failed_tx_charged_again :
    ∃ (s : State) (t : TxIn) (o1 o2 : Outcome) (s1 s2 : State),
      deliverTx {} (fun _ => none) s 10200001 t = .ok o1 ∧ o1.code ≠ 0 ∧ applyChecked s o1.plan = some s1 ∧
      balanceOf s1 t.sender t.comCoin < balanceOf s t.sender t.comCoin ∧ nonceOf s1 t.sender = nonceOf s t.sender ∧
      deliverTx {} (fun _ => none) s1 10200001 t = .ok o2 ∧ o2.code ≠ 0 ∧ applyChecked s1 o2.plan = some s2 ∧
      balanceOf s2 t.sender t.comCoin < balanceOf s1 t.sender t.comCoin :=
  ⟨f4State, f4Tx, chargedTwice_spec {} (fun _ => none) f4State 10200001 f4Tx (by decide +kernel)⟩

/-! Non-vacuity of the positive part: an accepted LockStake (type 37). -/
def okState : State :=
  { balances := [((1, 0), 1000000000000000000000)], commission := [("lock_stake", 10000000000000000), ("failed_tx", 10000000000000000)] }
def okTx : TxIn := { dec := true, rawLen := 100, typ := 37, nonce := 1, chain := 2, gasPrice := 1, sigOk := true, sender := 1 }

set_option maxRecDepth 8000 in
example : (match deliverTx {} (fun _ => none) okState 10200001 okTx with
    | .ok out => out.code == 0 && (applyChecked okState out.plan).isSome
    | .error _ => false) = true := by decide +kernel

end Minter
