import MinterModel.Concurrency
/-
  C25 (concurrent queries never perturb block execution), the part at the granularity of ABCI operations: a query
  returns the state it was given (`Machine.query_pure`), so it can be dropped from a history.  What happens inside the
  Go runtime while a query runs next to a block (locks, races, lazy cache fills: F18, F19, F31, F34) is not modelled;
  it is explored by harness mode `concurrent`.
-/
namespace Minter
open Machine

variable {σ Op Out : Type}

theorem run_cons (M : Machine σ Op Out) (s : σ) (op : Op) (rest : List Op) :
    M.run s (op :: rest) =
      (if M.isQuery op then M.run (M.step s op).1 rest
       else ((M.run (M.step s op).1 rest).1, (M.step s op).2 :: (M.run (M.step s op).1 rest).2)) := by
  rfl

theorem strip_cons (M : Machine σ Op Out) (op : Op) (rest : List Op) :
    M.strip (op :: rest) = if M.isQuery op then M.strip rest else op :: M.strip rest := by
  cases h : M.isQuery op <;> simp [Machine.strip, h]

theorem C25_interleave_invariant (M : Machine σ Op Out) (s : σ) (ops : List Op) :
    M.run s ops = M.run s (M.strip ops) := by
  induction ops generalizing s with
  | nil => rfl
  | cons op rest ih =>
    rw [strip_cons, run_cons]
    by_cases hq : M.isQuery op = true
    · rw [if_pos hq, if_pos hq, M.query_pure s op hq, ih]
    · rw [if_neg hq, if_neg hq, run_cons, if_neg hq, ih]

theorem C25_same_modulo_queries (M : Machine σ Op Out) (s : σ) (ops₁ ops₂ : List Op)
    (h : M.strip ops₁ = M.strip ops₂) : M.run s ops₁ = M.run s ops₂ := by
  rw [C25_interleave_invariant M s ops₁, C25_interleave_invariant M s ops₂, h]

/-! Non-vacuity: a counter machine with a read-only `get` op. -/
def exMachine : Machine Nat (Option Nat) Nat where
  step := fun s op => match op with
    | some k => (s + k, s + k)
    | none => (s, s)
  isQuery := fun op => op.isNone
  query_pure := by
    intro s op h
    cases op with
    | none => rfl
    | some k => simp at h

example : exMachine.run 0 [some 1, none, some 2, none, none] = exMachine.run 0 [some 1, some 2] := by
  rw [C25_interleave_invariant]; rfl

end Minter
