import MinterProofs.Validators
import MinterProofs.Slots
/-
  C17: after every validator-set update the validators are the top (at most 64) online candidates with at least 1000 BIP of
  stake, with powers proportional to stake; candidates ranked beyond 100 are removed, their stakes unbonded, unless they are
  validators; 1000 full delegation slots give way to an incoming delegation that is not smaller, the loser goes to the waitlist.
  Each clause is a fact about a sorted list cut at an index: `sortStable candLess`, filtered, cut at `limit` (`GetNewCandidates`);
  `sortStable candLessID` cut at 100 (`RecalculateStakesV2`); the scan of Slots.lean (`recalculateStakes`).  The harness mode
  `valid` compares the model functions with these functions of the node, and with `updateValidators`, on every run.
-/
namespace Minter

/-! ## Selection -/

/-- The qualified candidates in the order of `getOrderedCandidates`: `selectValidators` is the first `limit` of them. -/
def ranked (minStake : Int) (cands : List Candidate) : List Candidate :=
  (sortStable candLess cands).filter (qualifies minStake)

theorem qualifies_iff (minStake : Int) (c : Candidate) : qualifies minStake c = true ↔ c.status = 2 ∧ minStake ≤ c.totalBip := by
  simp [qualifies]

theorem mem_ranked {minStake : Int} {cands : List Candidate} {c : Candidate} :
    c ∈ ranked minStake cands ↔ c ∈ cands ∧ qualifies minStake c = true := by
  rw [ranked, List.mem_filter, (sortStable_perm candLess cands).mem_iff]

theorem ranked_perm (minStake : Int) (cands : List Candidate) : (ranked minStake cands).Perm (cands.filter (qualifies minStake)) :=
  (sortStable_perm candLess cands).filter _

theorem ranked_sorted (minStake : Int) (cands : List Candidate) :
    (ranked minStake cands).Pairwise (fun a b => b.totalBip < a.totalBip ∨ (b.totalBip = a.totalBip ∧ b.id ≤ a.id)) :=
  ((sortStable_sorted candLess candLess_strictWeak cands).sublist List.filter_sublist).imp
    fun {a b} h => (candLess_false_iff b a).mp h

theorem select_qualified (limit : Nat) (minStake : Int) (cands : List Candidate) :
    ∀ c ∈ selectValidators limit minStake cands, c ∈ cands ∧ c.status = 2 ∧ minStake ≤ c.totalBip := fun c hc =>
  have h := mem_ranked.mp (List.mem_of_mem_take hc)
  ⟨h.1, (qualifies_iff minStake c).mp h.2⟩

/-- Nobody is invented or duplicated. -/
theorem select_front (limit : Nat) (minStake : Int) (cands : List Candidate) :
    ∃ rest, (selectValidators limit minStake cands ++ rest).Perm (cands.filter (qualifies minStake)) :=
  ⟨(ranked minStake cands).drop limit, (List.take_append_drop limit _).symm ▸ ranked_perm minStake cands⟩

theorem select_length (limit : Nat) (minStake : Int) (cands : List Candidate) :
    (selectValidators limit minStake cands).length = min limit (cands.filter (qualifies minStake)).length :=
  (ranked_perm minStake cands).length_eq ▸ List.length_take

theorem select_le_limit (limit : Nat) (minStake : Int) (cands : List Candidate) :
    (selectValidators limit minStake cands).length ≤ limit :=
  select_length limit minStake cands ▸ Nat.min_le_left ..

theorem select_sorted (limit : Nat) (minStake : Int) (cands : List Candidate) :
    (selectValidators limit minStake cands).Pairwise
      (fun a b => b.totalBip < a.totalBip ∨ (b.totalBip = a.totalBip ∧ b.id ≤ a.id)) :=
  (ranked_sorted minStake cands).sublist (List.take_sublist ..)

theorem select_sorted_stake (limit : Nat) (minStake : Int) (cands : List Candidate) :
    (selectValidators limit minStake cands).Pairwise (fun a b => b.totalBip ≤ a.totalBip) :=
  (select_sorted limit minStake cands).imp (fun {a b} h => by omega)

/-- The "top candidates by total stake" of C17. -/
theorem select_top (limit : Nat) (minStake : Int) (cands : List Candidate)
    (c : Candidate) (hc : c ∈ cands) (hq : qualifies minStake c = true) (hn : c ∉ selectValidators limit minStake cands) :
    ∀ s ∈ selectValidators limit minStake cands,
      c.totalBip < s.totalBip ∨ (c.totalBip = s.totalBip ∧ c.id ≤ s.id) := by
  intro s hs
  have hF : c ∈ (ranked minStake cands).take limit ++ (ranked minStake cands).drop limit :=
    (List.take_append_drop ..).symm ▸ mem_ranked.mpr ⟨hc, hq⟩
  exact pairwise_take_drop (ranked_sorted minStake cands) limit s hs c ((List.mem_append.mp hF).resolve_left hn)

theorem select_all_when_room (limit : Nat) (minStake : Int) (cands : List Candidate)
    (h : (cands.filter (qualifies minStake)).length ≤ limit) (c : Candidate) (hc : c ∈ cands) (hq : qualifies minStake c = true) :
    c ∈ selectValidators limit minStake cands := by
  rw [selectValidators, List.take_of_length_le ((ranked_perm minStake cands).length_eq ▸ h)]
  exact mem_ranked.mpr ⟨hc, hq⟩

/-- Two places: 2 has the largest stake but is offline, 4 is below the minimum, 5 qualifies but ranks third; the tie 1/3 puts
    the larger id first. -/
example : (selectValidators 2 1000
    [⟨1, 1, 0, 0, 0, 0, 2, 0, 0, 5000, [], []⟩, ⟨2, 2, 0, 0, 0, 0, 1, 0, 0, 9000, [], []⟩,
     ⟨3, 3, 0, 0, 0, 0, 2, 0, 0, 5000, [], []⟩, ⟨4, 4, 0, 0, 0, 0, 2, 0, 0, 999, [], []⟩,
     ⟨5, 5, 0, 0, 0, 0, 2, 0, 0, 1000, [], []⟩]).map (·.id) = [3, 1] := by decide

/-! ## Powers -/

theorem powerOf_eq_max (stake total : Int) (hs : 0 ≤ stake) (ht : 0 < total) :
    powerOf stake total = max 1 (stake * 100000000 / total) := by
  have hq : 0 ≤ stake * 100000000 / total := Int.ediv_nonneg (Int.mul_nonneg hs (by decide)) (Int.le_of_lt ht)
  unfold powerOf
  generalize stake * 100000000 / total = q at hq
  simp only
  split <;> omega

theorem powerOf_pos (stake total : Int) (hs : 0 ≤ stake) (ht : 0 < total) : 1 ≤ powerOf stake total :=
  powerOf_eq_max stake total hs ht ▸ Int.le_max_left ..

theorem powerOf_le (stake total : Int) : powerOf stake total ≤ stake * 100000000 / total + 1 := by
  unfold powerOf
  simp only
  split <;> omega

/-- A power fits `int64` (the code converts with `.Int64()`): it is at most 10⁸ for a member of the set. -/
theorem powerOf_le_1e8 (stake total : Int) (hs : 0 ≤ stake) (ht : 0 < total) (hle : stake ≤ total) :
    powerOf stake total ≤ 100000000 := by
  have h := mul_ediv_le 100000000 stake total (by decide) ht hle
  rw [powerOf_eq_max stake total hs ht, Int.mul_comm]
  omega

theorem validatorPowers_sum (sel : List Candidate) (hpos : ∀ c ∈ sel, 0 ≤ c.totalBip) (ht : 0 < totalStakeOf sel) :
    sumBy (fun p => p.2) (validatorPowers sel) ≤ 100000000 + sel.length := by
  have h1 : sumBy (fun c => powerOf c.totalBip (totalStakeOf sel)) sel
      ≤ sumBy (fun c => 100000000 * c.totalBip / totalStakeOf sel + 1) sel :=
    sumBy_le _ _ _ fun c _ => Int.mul_comm .. ▸ powerOf_le c.totalBip (totalStakeOf sel)
  rw [sumBy_add, sumBy_const_one] at h1
  have h2 := sum_shares_le (fun c : Candidate => c.totalBip) 100000000 (totalStakeOf sel) (by decide) (Int.le_of_lt ht) sel
    (Int.le_refl _)
  rw [validatorPowers, sumBy_map]
  exact Int.le_trans h1 (Int.add_le_add_right h2 _)

theorem validatorPowers_pos (sel : List Candidate) (hpos : ∀ c ∈ sel, 0 ≤ c.totalBip) (ht : 0 < totalStakeOf sel) :
    ∀ p ∈ validatorPowers sel, 1 ≤ p.2 := by
  intro p hp
  obtain ⟨c, hc, rfl⟩ := List.mem_map.mp hp
  exact powerOf_pos _ _ (hpos c hc) ht

/-- The guard of the division in `updateValidators`: a non-empty selection has a positive total stake. -/
theorem select_total_pos (limit : Nat) (minStake : Int) (hmin : 0 < minStake) (cands : List Candidate)
    (hne : selectValidators limit minStake cands ≠ []) : 0 < totalStakeOf (selectValidators limit minStake cands) :=
  sumBy_pos hne fun c hc => Int.lt_of_lt_of_le hmin (select_qualified limit minStake cands c hc).2.2

/-- The "powers proportional to stake (rounded down, at least 1)" of C17. -/
theorem select_powers (limit : Nat) (minStake : Int) (hmin : 0 < minStake) (cands : List Candidate)
    (hne : selectValidators limit minStake cands ≠ []) :
    let sel := selectValidators limit minStake cands
    (∀ p ∈ validatorPowers sel, 1 ≤ p.2) ∧
    (∀ c ∈ sel, powerOf c.totalBip (totalStakeOf sel) = max 1 (c.totalBip * 100000000 / totalStakeOf sel)) ∧
    sumBy (fun p => p.2) (validatorPowers sel) ≤ 100000000 + sel.length := by
  intro sel
  have ht := select_total_pos limit minStake hmin cands hne
  have hpos : ∀ c ∈ sel, 0 ≤ c.totalBip := fun c hc =>
    Int.le_trans (Int.le_of_lt hmin) (select_qualified limit minStake cands c hc).2.2
  exact ⟨validatorPowers_pos sel hpos ht, fun c hc => powerOf_eq_max _ _ (hpos c hc) ht, validatorPowers_sum sel hpos ht⟩

example : (validatorPowers [⟨1, 1, 0, 0, 0, 0, 2, 0, 0, 1000000000, [], []⟩, ⟨2, 2, 0, 0, 0, 0, 2, 0, 0, 1, [], []⟩,
     ⟨3, 3, 0, 0, 0, 0, 2, 0, 0, 2000000000, [], []⟩]).map (·.2) = [33333333, 1, 66666666] := by decide

theorem validatorUpdates_spec (active : List PubKey) (new : List (PubKey × Int)) :
    ∀ p ∈ validatorUpdates active new,
      p ∈ new ∨ (p.2 = 0 ∧ p.1 ∈ active ∧ ∀ q ∈ new, q.1 ≠ p.1) := by
  intro p hp
  rcases List.mem_append.mp hp with h | h
  · exact .inl h
  · obtain ⟨k, hk, rfl⟩ := List.mem_map.mp h
    have hk := List.mem_filter.mp hk
    refine .inr ⟨rfl, hk.1, fun q hq heq => ?_⟩
    have := List.any_eq_false.mp (Bool.not_eq_true' _ ▸ hk.2) q hq
    exact this (beq_iff_eq.mpr heq)

/-! ## Pruning beyond the first 100 -/

theorem pruned_iff (limit : Nat) (isValidator : PubKey → Bool) (cands : List Candidate) (d : Candidate) :
    d ∈ prunedCandidates limit isValidator cands ↔
      d ∈ (sortStable candLessID cands).drop limit ∧ isValidator d.pubkey = false := by
  unfold prunedCandidates
  simp only
  split
  · next h =>
    rw [List.drop_eq_nil_of_le (by omega)]
    simp
  · rw [List.mem_filter]; simp

theorem pruned_not_validator (limit : Nat) (isValidator : PubKey → Bool) (cands : List Candidate) :
    ∀ d ∈ prunedCandidates limit isValidator cands, isValidator d.pubkey = false :=
  fun d hd => ((pruned_iff limit isValidator cands d).mp hd).2

theorem pruned_worse (limit : Nat) (isValidator : PubKey → Bool) (cands : List Candidate) :
    ∀ d ∈ prunedCandidates limit isValidator cands, ∀ k ∈ (sortStable candLessID cands).take limit,
      d.totalBip < k.totalBip ∨ (d.totalBip = k.totalBip ∧ k.id ≤ d.id) :=
  fun d hd k hk => (candLessID_false_iff d k).mp
    (pairwise_take_drop (sortStable_sorted candLessID candLessID_strictWeak cands) limit k hk d
      ((pruned_iff limit isValidator cands d).mp hd).1)

theorem pruned_subset (limit : Nat) (isValidator : PubKey → Bool) (cands : List Candidate) :
    ∀ d ∈ prunedCandidates limit isValidator cands, d ∈ cands :=
  fun d hd => (sortStable_perm candLessID cands).mem_iff.mp (List.mem_of_mem_drop ((pruned_iff limit isValidator cands d).mp hd).1)

theorem pruned_nil_of_le (limit : Nat) (isValidator : PubKey → Bool) (cands : List Candidate) (h : cands.length ≤ limit) :
    prunedCandidates limit isValidator cands = [] := by
  apply List.eq_nil_iff_forall_not_mem.mpr
  intro d hd
  rw [pruned_iff, List.drop_eq_nil_of_le ((sortStable_perm candLessID cands).length_eq ▸ h)] at hd
  exact List.not_mem_nil hd.1

/-- `huniq` holds in the node: `Candidates.list` is a map keyed by id. -/
theorem pruneBeyond_keeps (limit : Nat) (isValidator : PubKey → Bool) (cands : List Candidate)
    (huniq : ∀ a ∈ cands, ∀ b ∈ cands, a.id = b.id → a = b) (c : Candidate) (hc : c ∈ cands) :
    c ∈ pruneBeyond limit isValidator cands ↔ c ∉ prunedCandidates limit isValidator cands := by
  rw [pruneBeyond, List.mem_filter, Bool.not_eq_true', List.any_eq_false]
  constructor
  · exact fun h hp => h.2 c hp (beq_self_eq_true _)
  · refine fun h => ⟨hc, fun d hd heq => h ?_⟩
    exact huniq d (pruned_subset limit isValidator cands d hd) c hc (beq_iff_eq.mp heq) ▸ hd

theorem pruneBeyond_validator_stays (limit : Nat) (isValidator : PubKey → Bool) (cands : List Candidate)
    (huniq : ∀ a ∈ cands, ∀ b ∈ cands, a.id = b.id → a = b) (c : Candidate) (hc : c ∈ cands)
    (hv : isValidator c.pubkey = true) : c ∈ pruneBeyond limit isValidator cands :=
  (pruneBeyond_keeps limit isValidator cands huniq c hc).mpr fun hp =>
    Bool.noConfusion (hv.symm.trans (pruned_not_validator limit isValidator cands c hp))

/-- The "removed with all their stakes unbonded" of C17: stakes and pending updates, full coin values. -/
theorem unbondAll_value (due : Height) (c : Candidate) (coin : Coin) :
    sumBy (fun f => if f.coin = coin then f.value else 0) (unbondAll due c) = candHoldings coin c := by
  rw [unbondAll, candHoldings, sumBy_map, sumBy_append]
  rfl

theorem unbondAll_spec (due : Height) (c : Candidate) :
    ∀ f ∈ unbondAll due c, f.height = due ∧ f.candId = c.id ∧ f.candKey = some c.pubkey ∧ f.moveTo = 0 := by
  intro f hf
  obtain ⟨s, _, rfl⟩ := List.mem_map.mp hf
  exact ⟨rfl, rfl, rfl, rfl⟩

/-- Two places: 4 ranks last but is a validator and stays, 5 goes, and on the tie 2/3 the larger id goes. -/
example : (prunedCandidates 2 (fun k => k == 4)
    [⟨1, 1, 0, 0, 0, 0, 2, 0, 0, 9000, [], []⟩, ⟨2, 2, 0, 0, 0, 0, 1, 0, 0, 5000, [], []⟩,
     ⟨3, 3, 0, 0, 0, 0, 2, 0, 0, 5000, [], []⟩, ⟨4, 4, 0, 0, 0, 0, 2, 0, 0, 10, [], []⟩,
     ⟨5, 5, 0, 0, 0, 0, 2, 0, 0, 11, [], []⟩]).map (·.id) = [3, 5] := by decide

/-! ## The delegation slots -/

theorem slotReplace_eq {slots : Slots} {i : Nat} {m : Int} (h : findSlot slots = some (i, m)) (u : Stake) :
    slotReplace slots u = if m > u.bip then { slots := slots, kicked := some u }
      else { slots := slots.set i (some u), kicked := slots.getD i none } := by
  rw [slotReplace, h]

/-- The "replaces the smallest stake only if it is not smaller" of C17: the code kicks the update only when
    `smallestStake.Cmp(update.BipValue) == 1`, so on a tie the occupant `s` (the first stake of smallest bip value) goes.
    The loser goes to the waitlist as the whole record, hence with its coin `value`, not its bip value. -/
theorem slotReplace_full (l : List Stake) (hne : l ≠ []) (u : Stake) :
    ∃ j s, l[j]? = some s ∧ (∀ x ∈ l, s.bip ≤ x.bip) ∧ (∀ k' s', k' < j → l[k']? = some s' → s.bip < s'.bip) ∧
      slotReplace (l.map some) u =
        if u.bip < s.bip then { slots := l.map some, kicked := some u }
        else { slots := (l.map some).set j (some u), kicked := some s } := by
  obtain ⟨j, m, hf, _⟩ := findSlot_some (l.map some) (mt List.map_eq_nil_iff.mp hne)
  obtain ⟨s, hs, rfl, hmin, hfirst⟩ := findSlot_full l j m hf
  refine ⟨j, s, hs, hmin, fun k' s' hk hget =>
    hfirst s' (List.mem_of_getElem? ((List.getElem?_take_of_lt hk).trans hget)), ?_⟩
  rw [slotReplace_eq hf, List.getD_eq_getElem?_getD, List.getElem?_map, hs]
  rfl

theorem slotReplace_full_evicts (l : List Stake) (hne : l ≠ []) (u : Stake) (hge : ∃ x ∈ l, x.bip ≤ u.bip) :
    ∃ j s, l[j]? = some s ∧ (∀ x ∈ l, s.bip ≤ x.bip) ∧
      (slotReplace (l.map some) u).kicked = some s ∧ (slotReplace (l.map some) u).slots = (l.map some).set j (some u) := by
  obtain ⟨j, s, hs, hmin, _, heq⟩ := slotReplace_full l hne u
  obtain ⟨x, hx, hxu⟩ := hge
  rw [if_neg (Int.not_lt.mpr (Int.le_trans (hmin x hx) hxu))] at heq
  exact ⟨j, s, hs, hmin, by rw [heq], by rw [heq]⟩

theorem slotReplace_full_rejects (l : List Stake) (hne : l ≠ []) (u : Stake) (hlt : ∀ x ∈ l, u.bip < x.bip) :
    slotReplace (l.map some) u = { slots := l.map some, kicked := some u } := by
  obtain ⟨j, s, hs, _, _, heq⟩ := slotReplace_full l hne u
  rwa [if_pos (hlt s (List.mem_of_getElem? hs))] at heq

/-- `hu`: a free slot answers `smallestStake = 0`, and an update below that would be kicked itself. -/
theorem slotReplace_free (pre : List Stake) (rest : Slots) (u : Stake) (hu : 0 ≤ u.bip) :
    slotReplace (pre.map some ++ none :: rest) u = { slots := pre.map some ++ some u :: rest, kicked := none } := by
  have hlen : (pre.map some).length ≤ 0 + pre.length := by rw [List.length_map, Nat.zero_add]
  rw [slotReplace_eq (findSlotAux_free pre rest 0 none), if_neg (Int.not_lt.mpr hu), List.set_append_right _ _ hlen,
    List.getD_eq_getElem?_getD, List.getElem?_append_right hlen, List.length_map, Nat.zero_add, Nat.sub_self]
  rfl

theorem slotReplace_conserves (slots : Slots) (hne : slots ≠ []) (u : Stake) (coin : Coin) :
    slotsHold coin (slotReplace slots u).slots + optHold coin (slotReplace slots u).kicked
      = slotsHold coin slots + stakeOf coin u := by
  obtain ⟨j, m, hf, hj⟩ := findSlot_some slots hne
  rw [slotReplace_eq hf]
  split
  · rfl
  · exact sumBy_set (optHold coin) none slots j (some u) hj

theorem slotReplace_length (slots : Slots) (u : Stake) : (slotReplace slots u).slots.length = slots.length := by
  unfold slotReplace
  split
  · rfl
  · split
    · rfl
    · exact List.length_set

theorem applyUpdates_conserves (slots : Slots) (hne : slots ≠ []) (us : List Stake) (coin : Coin) :
    slotsHold coin (applyUpdates slots us).1 + sumBy (stakeOf coin) (applyUpdates slots us).2
      = slotsHold coin slots + sumBy (stakeOf coin) us := by
  induction us generalizing slots with
  | nil => rfl
  | cons u t ih =>
    have hstep := slotReplace_conserves slots hne u coin
    have hrest := ih (slotReplace slots u).slots
      (List.ne_nil_of_length_pos (slotReplace_length slots u ▸ List.length_pos_iff.mpr hne))
    simp only [applyUpdates, sumBy_append, sumBy]
    cases hk : (slotReplace slots u).kicked <;> rw [hk] at hstep <;> simp only [optHold, sumBy] at hstep ⊢ <;> omega

theorem slotReplace_kicked_mem (slots : Slots) (u k : Stake) (h : (slotReplace slots u).kicked = some k) :
    k = u ∨ some k ∈ slots := by
  unfold slotReplace at h
  split at h
  · cases h
  · next i m _ =>
    split at h
    · exact .inl (Option.some.inj h).symm
    · rw [List.getD_eq_getElem?_getD, Option.getD_eq_iff] at h
      exact .inr (List.mem_of_getElem? (h.resolve_right fun e => nomatch e.2))

/-- Bip 7, 5, 5: an update of 5 replaces the first 5 (owner 2), 4 is rejected; with a free slot 4 is taken. -/
example : (slotReplace [some ⟨1, 0, 7, 7⟩, some ⟨2, 0, 5, 5⟩, some ⟨3, 0, 5, 5⟩] ⟨9, 0, 5, 5⟩)
    = { slots := [some ⟨1, 0, 7, 7⟩, some ⟨9, 0, 5, 5⟩, some ⟨3, 0, 5, 5⟩], kicked := some ⟨2, 0, 5, 5⟩ } := by decide
example : (slotReplace [some ⟨1, 0, 7, 7⟩, some ⟨2, 0, 5, 5⟩, some ⟨3, 0, 5, 5⟩] ⟨9, 0, 4, 4⟩).kicked = some ⟨9, 0, 4, 4⟩ := by decide
example : (slotReplace [some ⟨1, 0, 7, 7⟩, none, some ⟨3, 0, 5, 5⟩] ⟨9, 0, 4, 4⟩)
    = { slots := [some ⟨1, 0, 7, 7⟩, some ⟨9, 0, 4, 4⟩, some ⟨3, 0, 5, 5⟩], kicked := none } := by decide
/-- The waitlist receives the coin value (300), not the bip value (5). -/
example : ((slotReplace [some ⟨1, 7, 300, 5⟩] ⟨9, 0, 6, 6⟩).kicked.map (·.value)) = some 300 := by decide

end Minter
