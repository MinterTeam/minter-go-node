import MinterProofs.Persist.Crash
import MinterProofs.Props.C09
/-
  C10 — a crash at any point during `Commit` is recoverable.  True for the write order /repo has since 861d6db (F20: the
  app-DB records in one tm-db batch, `commitWritesAtomic`, `crash_recoverable_atomic`); false for the order before it
  (`commitWrites`: seven separate `Set`s  hash, height, validators?, blockDelta, versions?, emission?, price?;
  `crash_not_recoverable`).  `Q commitorder` compares the logged writes of every real `Commit` with the model's, for
  whichever of the two orders the code has.
  Tendermint's handshake (`replayFrom`) decides from `Info` alone whether block `h` is delivered again, and the height in
  `Info` is the `height` record.  A crash before that record leaves a `MidDisk`, from which the re-delivered block ends
  like the uncrashed one; a crash after it replays nothing, so the records not yet written are lost (`crash_after_height`).
  `Boundary.keep`: with `keep_last_states = 0` the commit prunes the version the restart needs (`keep_zero_fatal`).
  Outside the model: torn writes inside a goleveldb/IAVL batch, fsync ordering between the three DBs, Tendermint's WAL.
-/
namespace Minter
namespace Persist

theorem runBlockAtomic_eq (cfg : Cfg) (n : Node) (h : Nat) (b : Block) : runBlockAtomic cfg n h b = runBlock cfg n h b := by
  unfold runBlockAtomic runBlock; exact commitAtomic_eq _ _ _ _ _

theorem recoverAtomic_eq (cfg : Cfg) (d : Disk) (ws : List Write) (k h : Nat) (b : Block) :
    recoverAtomic cfg d ws k h b = recover cfg d ws k h b := by
  unfold recoverAtomic recover
  simp only [runBlockAtomic_eq]

/-- number of writes up to and including the `hash` record; the `height` record is write number `hashIdx + 1`. -/
def hashIdx (cfg : Cfg) (n : Node) (h : Nat) (hash : Hash) (nEv : Nat) : Nat :=
  match preWrites cfg n h hash nEv with
  | some pre => pre.length + 1
  | none => 0

theorem crash_recoverable_partial (cfg : Cfg) (n0 : Node) (h : Nat) (b : Block) (hb : Boundary cfg n0 h) (hok : OpsOK b.ops)
    (nc : Node) (hr : runBlock cfg n0 h b = some nc) (ws : List Write)
    (hw : commitWrites cfg (runOps n0 (blockOps b)) h b.hash b.nEv = some ws) (k : Nat)
    (hk : k ≤ hashIdx cfg (runOps n0 (blockOps b)) h b.hash b.nEv ∨ ws.length ≤ k) :
    ∃ rc, recover cfg (runOps n0 (blockOps b)).disk ws k h b = some rc ∧ logical rc = logical nc ∧
      rc.disk.tree = nc.disk.tree ∧ Coherent rc := by
  obtain ⟨pre, hp, rfl⟩ := commitWrites_eq_some.mp hw
  rcases hk with hk | hk
  · -- before the height record: no record is written yet, or just `hash`
    simp only [hashIdx, hp] at hk
    obtain ⟨a, t, _⟩ := crash_prefix hp (appRecs (runOps n0 (blockOps b)).mem h b.hash) k
    refine recover_mid hok hr _ _ k hb ⟨?_, t⟩
    rw [a]
    obtain hz | hz : k - pre.length = 0 ∨ k - pre.length = 1 := by omega
    · rw [hz]; exact Or.inl rfl
    · rw [hz]; exact Or.inr rfl
  · -- the complete commit
    apply recover_complete hok hr _ _ k hb.coh
    unfold runBlock commit at hr
    simp only [hw, Option.some.injEq] at hr
    rw [← hr, crashDisk, List.take_of_length_le hk]

theorem crash_then_continue (cfg : Cfg) (rc nc : Node) (hrc : Coherent rc) (hnc : Coherent nc)
    (hl : logical rc = logical nc) (ht : rc.disk.tree = nc.disk.tree) (h : Nat) (steps : List (Block × Nat))
    (hok : StepsOK steps) :
    observe rc = observe nc ∧ runSteps cfg rc (h + 1) steps = runSteps cfg nc (h + 1) (steps.map (fun s => (s.1, 0))) :=
  have s := Sim.of_tree_eq hrc hnc hl ht
  ⟨s.obs, s.steps cfg steps (Nat.zero_le _) hok⟩

theorem setRecs_keeps (l : List Rec) : ∀ (a : AppDisk), (∀ r ∈ l, (∀ x, r ≠ Rec.hash x) ∧ (∀ x, r ≠ Rec.height x)) →
    (setRecs a l).hash = a.hash ∧ (setRecs a l).height = a.height := by
  induction l with
  | nil => intro a _; exact ⟨rfl, rfl⟩
  | cons r l ih =>
    intro a hl
    obtain ⟨y1, y2⟩ := ih (setRec a r) (fun q hq => hl q (by simp [hq]))
    have hr := hl r (by simp)
    cases r with
    | hash x => exact absurd rfl (hr.1 x)
    | height x => exact absurd rfl (hr.2 x)
    | _ => exact ⟨y1, y2⟩

theorem appRecs_eq (m : AppMem) (h : Nat) (hash : Hash) : ∃ tail, appRecs m h hash = Rec.hash hash :: Rec.height h :: tail ∧
    ∀ r ∈ tail, (∀ x, r ≠ Rec.hash x) ∧ (∀ x, r ≠ Rec.height x) := by
  refine ⟨(appRecs m h hash).drop 2, rfl, fun r hr => ?_⟩
  simp only [appRecs, List.cons_append, List.nil_append, List.drop_succ_cons, List.drop_zero, List.mem_append,
    List.mem_singleton] at hr
  rcases hr with ((((hr | rfl) | hr) | hr) | hr)
  · cases hv : m.validators <;> simp [hv] at hr; subst hr; simp
  · simp
  · split at hr <;> simp at hr; subst hr; simp
  · split at hr <;> simp at hr; subst hr; simp
  · split at hr
    · cases hv : m.price <;> simp [hv] at hr; subst hr; simp
    · simp at hr

theorem crash_after_height (cfg : Cfg) (n0 : Node) (h : Nat) (b : Block) (hb : Boundary cfg n0 h) (hok : OpsOK b.ops)
    (ws : List Write) (hw : commitWrites cfg (runOps n0 (blockOps b)) h b.hash b.nEv = some ws) (k : Nat)
    (hk : hashIdx cfg (runOps n0 (blockOps b)) h b.hash b.nEv + 1 ≤ k) :
    ∃ r, restart (crashDisk (runOps n0 (blockOps b)).disk ws k) = some r ∧
      replayFrom (crashDisk (runOps n0 (blockOps b)).disk ws k) h b.hash = some [] ∧
      recover cfg (runOps n0 (blockOps b)).disk ws k h b = some r ∧ info r = (h, some b.hash) ∧
      logical r = logicalOfDisk (crashDisk (runOps n0 (blockOps b)).disk ws k) ∧ Coherent r := by
  obtain ⟨pre, hp, rfl⟩ := commitWrites_eq_some.mp hw
  simp only [hashIdx, hp] at hk
  obtain ⟨a, _, t⟩ := crash_prefix hp (appRecs (runOps n0 (blockOps b)).mem h b.hash) k
  -- both head records are on the disk, and the tree is the final one
  obtain ⟨tail, ht, htl⟩ := appRecs_eq (runOps n0 (blockOps b)).mem h b.hash
  obtain ⟨j, hj⟩ : ∃ j, k - pre.length = j + 2 := ⟨k - pre.length - 2, by omega⟩
  rw [hj, congrArg (List.take (j + 2)) ht] at a
  obtain ⟨e1, e2⟩ := setRecs_keeps (tail.take j) _ (fun r hr => htl r (List.mem_of_mem_take hr))
  obtain ⟨r, hrs, lr, hi⟩ := restart_some _ h (a ▸ e2)
    (by rw [t (by omega), treeAfter_lookup _ _ (preWrites_some hp).1, if_pos rfl]; rfl)
  rw [show (crashDisk _ _ k).app.hash = some b.hash from a ▸ e1] at hi
  obtain ⟨hrep, hrec⟩ := recover_same _ _ k hrs hi
  exact ⟨r, hrs, hrep, hrec, hi, lr.logical, lr.coh⟩

theorem recovered_iff_nothing_lost (cfg : Cfg) (n0 : Node) (h : Nat) (b : Block) (hb : Boundary cfg n0 h) (hok : OpsOK b.ops)
    (nc : Node) (ws : List Write) (hw : commitWrites cfg (runOps n0 (blockOps b)) h b.hash b.nEv = some ws) (k : Nat)
    (hk : hashIdx cfg (runOps n0 (blockOps b)) h b.hash b.nEv + 1 ≤ k) :
    (∃ r, recover cfg (runOps n0 (blockOps b)).disk ws k h b = some r ∧ logical r = logical nc) ↔
      logicalOfDisk (crashDisk (runOps n0 (blockOps b)).disk ws k) = logical nc := by
  obtain ⟨r, _, _, h3, _, h5, _⟩ := crash_after_height cfg n0 h b hb hok ws hw k hk
  constructor
  · rintro ⟨r', hr', hl'⟩
    rw [h3] at hr'; cases hr'
    rw [← h5]; exact hl'
  · intro e
    exact ⟨r, h3, by rw [h5]; exact e⟩

/-- C10 for the write order of /repo since 861d6db: no hypothesis on `k`. -/
theorem crash_recoverable_atomic (cfg : Cfg) (n0 : Node) (h : Nat) (b : Block) (hb : Boundary cfg n0 h) (hok : OpsOK b.ops)
    (nc : Node) (hr : runBlockAtomic cfg n0 h b = some nc) (ws : List Write)
    (hw : commitWritesAtomic cfg (runOps n0 (blockOps b)) h b.hash b.nEv = some ws) (k : Nat) :
    ∃ rc, recoverAtomic cfg (runOps n0 (blockOps b)).disk ws k h b = some rc ∧ logical rc = logical nc ∧
      rc.disk.tree = nc.disk.tree ∧ Coherent rc := by
  rw [runBlockAtomic_eq] at hr
  rw [recoverAtomic_eq]
  obtain ⟨pre, hp, rfl⟩ := commitWritesAtomic_eq_some.mp hw
  by_cases hle : k ≤ pre.length
  · -- before the batch: no record is written
    obtain ⟨a1, t1⟩ := pre_prefix hp k
    refine recover_mid hok hr _ _ k hb ?_
    rw [crashDisk, List.take_append_of_le_length hle]
    exact ⟨Or.inl a1, t1⟩
  · -- the batch is one write: past `pre` the commit is complete
    apply recover_complete hok hr _ _ k hb.coh
    rw [← runBlockAtomic_eq] at hr
    unfold runBlockAtomic commitAtomic at hr
    simp only [hw, Option.some.injEq] at hr
    rw [← hr, crashDisk, List.take_of_length_le (by simp; omega)]

/-! ### the witness: separate writes lose records -/

def wNode : Node :=
  { mem := { startHeight := 5, lastHeight := 9, lastTimeBlocks := [100, 105], versions := [⟨1, 0⟩], emission := some 1000,
             isDirtyPrice := true, price := some ⟨7, 1, 2, 3, false⟩ },
    disk := { app := { hash := some 9, height := some 9, startHeight := some 5, validators := some [(1, 10)],
                       blockTimes := some [100, 105], versions := some [⟨1, 0⟩], emission := some 1000,
                       price := some ⟨7, 1, 2, 3, false⟩ },
              tree := [(9, 9), (8, 8)] } }

/-- touches every record, so that each crash point behind `height` loses something different. -/
def wBlock : Block :=
  { time := 110, hash := 10, nEv := 1,
    ops := [.setEmission (fun e => e.getD 0 + 74), .setValidators (fun v => (2, 5) :: v), .addVersion 2 10,
            .setPrice (fun _ => ⟨8, 4, 5, 6, true⟩)] }

def wCfg : Cfg := ⟨2⟩

/-- `wNode` is the same record as C09's `exNode`, so `exNode_coherent` applies by unfolding. -/
theorem wNode_boundary : Boundary wCfg wNode 10 :=
  ⟨exNode_coherent, by unfold Flushed; decide, by decide, by decide, by decide, by decide⟩

theorem wBlock_ok : OpsOK wBlock.ops := by
  intro o ho
  simp only [wBlock, List.mem_cons, List.mem_nil_iff, or_false] at ho
  rcases ho with rfl | rfl | rfl | rfl <;> simp [OpOK]

example : (commitWrites wCfg (runOps wNode (blockOps wBlock)) 10 10 1).map (fun ws => ws.map Write.tag) =
    some ["events", "tree", "hash", "height", "validators", "blockDelta", "versions", "emission", "price"] := by decide +kernel

def lostAt (cfg : Cfg) (n0 : Node) (h : Nat) (b : Block) (k : Nat) : Option (List String) :=
  let n1 := runOps n0 (blockOps b)
  match commitWrites cfg n1 h b.hash b.nEv, runBlock cfg n0 h b with
  | some ws, some nc =>
    match recover cfg n1.disk ws k h b with
    | none => none
    | some r =>
      let a := observe r
      let c := observe nc
      some ((if a.infoHeight = c.infoHeight ∧ a.infoHash = c.infoHash then [] else ["info"])
        ++ (if a.validators = c.validators then [] else ["validators"])
        ++ (if a.delta = c.delta then [] else ["blockDelta"])
        ++ (if a.versions = c.versions then [] else ["versions"])
        ++ (if a.emission = c.emission then [] else ["emission"])
        ++ (if a.price = c.price then [] else ["price"]))
  | _, _ => none

/-- the table per crash point: 0–3 (up to `hash`) and 9 (complete) recover; 4–8 lose every record not yet written. -/
example : (List.range 10).map (lostAt wCfg wNode 10 wBlock) =
    [some [], some [], some [], some [],
     some ["validators", "blockDelta", "versions", "emission", "price"],
     some ["blockDelta", "versions", "emission", "price"],
     some ["versions", "emission", "price"],
     some ["emission", "price"],
     some ["price"],
     some []] := by decide +kernel

/-- C10 fails for the separate writes: the witness is `k = 4`, right after the `height` record. -/
theorem crash_not_recoverable :
    ∃ (cfg : Cfg) (n0 : Node) (h : Nat) (b : Block) (ws : List Write) (nc r : Node) (k : Nat),
      Boundary cfg n0 h ∧ OpsOK b.ops ∧ runBlock cfg n0 h b = some nc ∧
      commitWrites cfg (runOps n0 (blockOps b)) h b.hash b.nEv = some ws ∧ k ≤ ws.length ∧
      replayFrom (crashDisk (runOps n0 (blockOps b)).disk ws k) h b.hash = some [] ∧
      recover cfg (runOps n0 (blockOps b)).disk ws k h b = some r ∧
      (observe r).emission ≠ (observe nc).emission ∧ (observe r).validators ≠ (observe nc).validators ∧
      (observe r).delta ≠ (observe nc).delta ∧ (observe r).versions ≠ (observe nc).versions ∧
      (observe r).price ≠ (observe nc).price :=
  ⟨wCfg, wNode, 10, wBlock, _, _, _, 4, wNode_boundary, wBlock_ok, rfl, rfl, by decide, by decide, rfl,
    by decide, by decide, by decide, by decide, by decide⟩

/-- non-vacuity of `crash_recoverable_partial`: `k = 3` is right after `hash`. -/
example : ∃ rc, recover wCfg (runOps wNode (blockOps wBlock)).disk
    ((commitWrites wCfg (runOps wNode (blockOps wBlock)) 10 10 1).getD []) 3 10 wBlock = some rc ∧
    (info rc) = (10, some 10) := ⟨_, rfl, by decide⟩

example : (List.range 4).map (fun k =>
    (recoverAtomic wCfg (runOps wNode (blockOps wBlock)).disk
      ((commitWritesAtomic wCfg (runOps wNode (blockOps wBlock)) 10 10 1).getD []) k 10 wBlock).map observe)
    = List.replicate 4 ((runBlock wCfg wNode 10 wBlock).map observe) := by decide +kernel

/-- `keep_last_states = 0`: the commit prunes version `h-1`; a crash before the height record leaves a node that
    cannot start (it needs the version it has just deleted). -/
theorem keep_zero_fatal :
    let ws := (commitWrites ⟨0⟩ (runOps wNode (blockOps wBlock)) 10 10 1).getD []
    ws.map Write.tag = ["events", "tree", "prune", "hash", "height", "validators", "blockDelta", "versions", "emission", "price"] ∧
    restart (crashDisk (runOps wNode (blockOps wBlock)).disk ws 3) = none := by decide +kernel

end Persist
end Minter
