import MinterProofs.Props.C13
/-
  C07 — no input can crash the node.  The model marks every place where the Go code panics with an explicit fault value
  (`Quote.panic`, `Stop.panic`, `Lob.Fault`); a theorem per site shows the fault cannot be produced from the inputs that
  reach it.  Here: the two `panic(err)` sites inside `calculateBuyForSellWithOrders` / `calculateSellForBuyWithOrders`
  (the swap check after a quote) for pools without orders; they follow from the K inequalities of C13.
  The transaction layer is in `Props/C07Tx.lean`; other sites where their component lives: the partial fill of a limit
  order (`Lob.ratInt_eq_ediv`: the `big.Float` detour is exact), the reward payout remainder (`payout_remainder_nonneg`,
  C19), the events store (`Ev.C24_run_total`), RLP decoding (`Rlp.decode_fuel_irrelevant`).
  PARTIAL: no theorem excludes a fault of the BeginBlock model (its results are stated for runs that end in `.ok`); nil
  dereferences / index errors in glue code that the model does not represent, resource exhaustion and third-party
  library panics are only searched for (`recover()` around every ABCI call on generated and malformed input).
-/
namespace Minter

/-- The `panic(err)` after `CheckSwap` in `calculateBuyForSellWithOrders`: the quote passes the check by `buyForSell_K`. -/
theorem C07_bfs_no_panic (r0 r1 a : Int) (h0 : 0 < r0) (h1 : 0 < r1) (ha : 0 ≤ a) :
    ∀ w, bfsNoOrders r0 r1 a ≠ .panic w := by
  intro w
  unfold bfsNoOrders
  split
  · intro h; cases h
  · next hne =>
    have hpos : 0 < a := by omega
    split
    · intro h; cases h
    · next d hd =>
      obtain ⟨hd0, hd1, hk, _⟩ := buyForSell_K r0 r1 a d h0 h1 hpos hd
      rw [checkSwap_none h0.le hpos hd0 hd1.le hk]
      intro h; cases h

theorem C07_sfb_no_panic (r0 r1 out : Int) (h0 : 0 < r0) (h1 : 0 < r1) (ho : 0 ≤ out) :
    ∀ w, sfbNoOrders r0 r1 out ≠ .panic w := by
  intro w
  unfold sfbNoOrders
  split
  · intro h; cases h
  · next hne =>
    have hpos : 0 < out := by omega
    split
    · split <;> (intro h; cases h)
    · next d hd =>
      obtain ⟨ho1, hd0, hk, _⟩ := sellForBuy_K r0 r1 out d h0 h1 hpos hd
      rw [checkSwap_none h0.le hd0 hpos ho1.le hk]
      intro h; cases h

theorem net_nonneg (a : Int) (ha : 0 ≤ a) : 0 ≤ a - com1000 a := by
  have := com1000_bounds a ha
  omega

theorem C07_quote_no_panic (r0 r1 a : Int) (h0 : 0 < r0) (h1 : 0 < r1) (ha : 0 ≤ a) :
    (∀ w, quoteBuyForSell r0 r1 a ≠ .panic w) ∧ (∀ w, quoteSellForBuy r0 r1 a ≠ .panic w) := by
  constructor
  · intro w
    unfold quoteBuyForSell
    simp only
    split
    · exact C07_bfs_no_panic r0 r1 _ h0 h1 (net_nonneg a ha) w
    · exact C07_bfs_no_panic r0 r1 a h0 h1 ha w
  · intro w
    unfold quoteSellForBuy
    have := C07_sfb_no_panic r0 r1 a h0 h1 ha
    split
    · split <;> (intro h; cases h)
    · next q hq =>
      intro h
      rw [h] at hq
      -- `q = .panic w` would have to come from sfbNoOrders, which never panics
      cases hs : sfbNoOrders r0 r1 a with
      | nil => simp_all
      | val v => simp_all
      | panic w' => exact this w' hs

example : bfsNoOrders 1000000 2000000 1000 = .val 1994 := by decide

end Minter
