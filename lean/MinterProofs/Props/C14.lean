import MinterProofs.Props.C13Orders
/-
  C14 — limit orders: price of every fill, priority, partial fills keep the price, dust closure, cancel / expire.
  All statements are about `MinterModel/Orders.lean` (`Minter.Lob`), for every book, every oracle, every amount.
-/
namespace Minter.Lob
open Minter

/-! ## 1. Priority: the walk consumes a prefix of the best-first list; only the last fill may be partial -/

theorem Consumed.forall₂ {book : List Order} {fs : List Fill} (hbook : ∀ o ∈ book, 0 < o.wantBuy ∧ 0 < o.wantSell)
    (h : Consumed book fs) : List.Forall₂ FillOk (book.take fs.length) fs := by
  induction h with
  | none bk => simp
  | full o bk fs _ ih =>
    have ho := hbook o (List.mem_cons_self ..)
    simp only [List.length_cons, List.take_succ_cons]
    exact List.Forall₂.cons (fullFill_ok o ho.1 ho.2) (ih fun x hx => hbook x (List.mem_cons_of_mem _ hx))
  | part o bk f hf =>
    simp only [List.length_cons, List.length_nil, List.take_succ_cons, List.take_zero]
    exact List.Forall₂.cons hf List.Forall₂.nil

theorem Consumed.not_last_full {book : List Order} {fs : List Fill} (h : Consumed book fs) :
    ∀ i (hi : i + 1 < fs.length), ∃ o, book[i]? = some o ∧ fs[i] = o.fullFill := by
  induction h with
  | none bk => intro i hi; simp at hi
  | part o bk f _ => intro i hi; simp at hi
  | full o bk fs _ ih =>
    rintro (_ | j) hi
    · exact ⟨o, rfl, rfl⟩
    · exact ih j (by simpa using hi)

/-! ### the best-first list is sorted by the float53 key, then by id -/

/-- Zero is below every other float; the others compare by exponent, then by mantissa. -/
theorem BFloat.lt_iff (x y : BFloat) : x.lt y = true ↔
    y.mant ≠ 0 ∧ (x.mant = 0 ∨ x.exp < y.exp ∨ x.exp = y.exp ∧ x.mant < y.mant) := by
  unfold BFloat.lt
  split_ifs with hx hy
  · simp [hx]
  · simp [hy]
  · simp [hx, hy]

theorem BFloat.lt_irrefl (x : BFloat) : x.lt x = false := by
  rw [← Bool.not_eq_true, BFloat.lt_iff]
  omega

theorem BFloat.lt_trans (x y z : BFloat) (h1 : x.lt y = true) (h2 : y.lt z = true) : x.lt z = true := by
  rw [BFloat.lt_iff] at *
  omega

theorem BFloat.lt_negtrans (x y z : BFloat) (h1 : x.lt y = false) (h2 : y.lt z = false) : x.lt z = false := by
  rw [← Bool.not_eq_true, BFloat.lt_iff] at *
  omega

theorem better_total (sorted : Bool) (a b : BFloat × Order) : (better sorted a b || better sorted b a) = true := by
  unfold better
  cases sorted <;> simp only [Bool.false_eq_true, if_false, if_true]
  · cases h1 : a.1.lt b.1 <;> cases h2 : b.1.lt a.1 <;> simp
    omega
  · cases h1 : a.1.lt b.1 <;> cases h2 : b.1.lt a.1 <;> simp
    omega

/-- `better` in the abstract (`better_iff`): `lt` on the keys, a tie (`lt` false both ways) broken by the id. -/
theorem lexId_trans {α : Type} {lt : α → α → Bool} (tr : ∀ x y z, lt x y = true → lt y z = true → lt x z = true)
    (ntr : ∀ x y z, lt x y = false → lt y z = false → lt x z = false) {a b c : α} {i j k : Nat}
    (h1 : lt a b = true ∨ lt b a = false ∧ i ≤ j) (h2 : lt b c = true ∨ lt c b = false ∧ j ≤ k) :
    lt a c = true ∨ lt c a = false ∧ i ≤ k := by
  rcases h1 with h1 | ⟨h1, hij⟩ <;> rcases h2 with h2 | ⟨h2, hjk⟩
  · exact .inl (tr _ _ _ h1 h2)
  · -- `a < b` and `b, c` tied: were `a, c` tied or `c < a`, `a, b` would be
    refine .inl (by_contra fun hc => ?_)
    rw [ntr _ _ _ (Bool.not_eq_true _ ▸ hc) h2] at h1
    cases h1
  · refine .inl (by_contra fun hc => ?_)
    rw [ntr _ _ _ h1 (Bool.not_eq_true _ ▸ hc)] at h2
    cases h2
  · exact .inr ⟨ntr _ _ _ h2 h1, by omega⟩

theorem better_iff (sorted : Bool) (a b : BFloat × Order) : better sorted a b = true ↔
    (if sorted then b.1.lt a.1 else a.1.lt b.1) = true ∨
      (if sorted then a.1.lt b.1 else b.1.lt a.1) = false ∧ a.2.id ≤ b.2.id := by
  cases sorted <;> simp [better]

theorem better_trans (sorted : Bool) (a b c : BFloat × Order) (h1 : better sorted a b = true)
    (h2 : better sorted b c = true) : better sorted a c = true := by
  rw [better_iff] at *
  cases sorted
  · exact lexId_trans BFloat.lt_trans BFloat.lt_negtrans h1 h2
  · exact lexId_trans (lt := fun x y => y.lt x) (fun x y z h h' => BFloat.lt_trans z y x h' h)
      (fun x y z h h' => BFloat.lt_negtrans z y x h' h) h1 h2
/-- `a` comes no later than `b`: strictly better float53 price, or the same float53 price and the lower id. -/
def goesBefore (sorted : Bool) (a b : Order) : Prop :=
  better sorted (sortKey sorted a, a) (sortKey sorted b, b) = true

theorem sortBook_sorted (sorted : Bool) (book : List Order) : (sortBook sorted book).Pairwise (goesBefore sorted) := by
  unfold sortBook
  have hp := List.pairwise_mergeSort (le := better sorted) (better_trans sorted)
    (better_total sorted) (book.map fun o => (sortKey sorted o, o))
  rw [List.pairwise_map]
  refine List.Pairwise.imp_of_mem ?_ hp
  intro a b ha hb hab
  -- every pair of the sorted list is an order with its own key
  have key : ∀ a ∈ (book.map fun o => (sortKey sorted o, o)).mergeSort (better sorted), a.1 = sortKey sorted a.2 := by
    simp only [List.mem_mergeSort, List.mem_map]
    rintro _ ⟨o, _, rfl⟩
    rfl
  rw [goesBefore, ← key a ha, ← key b hb]
  exact hab

/-! ## 2. The entry points: price, priority, credits -/

def lookupCredit (cs : List (Nat × Int)) (owner : Nat) : Int :=
  match cs with
  | [] => 0
  | (o, x) :: t => if o = owner then x else lookupCredit t owner

def owedTo (owner : Nat) (fs : List Fill) : Int := ((fs.filter fun f => f.owner = owner).map (·.buy)).sum

theorem lookup_creditAdd (cs : List (Nat × Int)) (o owner : Nat) (v : Int) :
    lookupCredit (creditAdd cs o v) owner = lookupCredit cs owner + (if o = owner then v else 0) := by
  induction cs with
  | nil => simp [creditAdd, lookupCredit]
  | cons c t ih =>
    obtain ⟨o', x⟩ := c
    by_cases h : o' = o
    · subst h
      simp only [creditAdd, if_true, lookupCredit]
      split <;> simp
    · simp only [creditAdd, if_neg h, lookupCredit, ih]
      split
      · next h2 => rw [if_neg fun e => h (h2.trans e.symm), add_zero]
      · rfl

theorem lookup_credits_foldl (fs : List Fill) (acc : List (Nat × Int)) (owner : Nat) :
    lookupCredit (fs.foldl (fun cs f => creditAdd cs f.owner f.buy) acc) owner = lookupCredit acc owner + owedTo owner fs := by
  induction fs generalizing acc with
  | nil => simp [owedTo]
  | cons f t ih =>
    simp only [List.foldl_cons]
    rw [ih, lookup_creditAdd]
    unfold owedTo
    by_cases h : f.owner = owner
    · simp [h]; ring
    · simp [h]

theorem credits_exact (fs : List Fill) (owner : Nat) : lookupCredit (credits fs) owner = owedTo owner fs := by
  unfold credits
  rw [lookup_credits_foldl]
  simp [lookupCredit]

/-- C14 for `SellWithOrders`: price and priority are both inside `Consumed` (`Consumed.forall₂` with `fill_at_own_price`,
    `Consumed.not_last_full`). -/
theorem sell_fills (O : Oracle) (sorted : Bool) (r0 r1 : Int) (book : List Order) (amountIn : Int) (res : TradeResult)
    (hbook : ∀ o ∈ book, 0 < o.wantBuy ∧ 0 < o.wantSell) (h0 : 0 < r0) (h1 : 0 < r1)
    (h : sellWithOrders O sorted r0 r1 book amountIn = .ok res) :
    Consumed (sortBook sorted book) res.fills ∧ (∀ owner, lookupCredit res.credits owner = owedTo owner res.fills) := by
  obtain ⟨hc, ec, _⟩ := sellWithOrders_walk O sorted r0 r1 book amountIn res hbook h0 h1 h
  exact ⟨hc, fun owner => ec ▸ credits_exact res.fills owner⟩

theorem buy_fills (O : Oracle) (sorted : Bool) (r0 r1 : Int) (book : List Order) (amountOut : Int) (res : TradeResult)
    (hbook : ∀ o ∈ book, 0 < o.wantBuy ∧ 0 < o.wantSell) (h0 : 0 < r0) (h1 : 0 < r1)
    (h : buyWithOrders O sorted r0 r1 book amountOut = .ok res) :
    Consumed (sortBook sorted book) res.fills ∧ (∀ owner, lookupCredit res.credits owner = owedTo owner res.fills) := by
  obtain ⟨hc, ec, _⟩ := buyWithOrders_walk O sorted r0 r1 book amountOut res hbook h0 h1 h
  exact ⟨hc, fun owner => ec ▸ credits_exact res.fills owner⟩

theorem priority_sell (O : Oracle) (sorted : Bool) (r0 r1 : Int) (book : List Order) (amountIn : Int) (res : TradeResult)
    (hbook : ∀ o ∈ book, 0 < o.wantBuy ∧ 0 < o.wantSell) (h0 : 0 < r0) (h1 : 0 < r1)
    (h : sellWithOrders O sorted r0 r1 book amountIn = .ok res) :
    (sortBook sorted book).Perm book ∧ (sortBook sorted book).Pairwise (goesBefore sorted) ∧
    Consumed (sortBook sorted book) res.fills :=
  ⟨sortBook_perm sorted book, sortBook_sorted sorted book, (sell_fills O sorted r0 r1 book amountIn res hbook h0 h1 h).1⟩

theorem priority_buy (O : Oracle) (sorted : Bool) (r0 r1 : Int) (book : List Order) (amountOut : Int) (res : TradeResult)
    (hbook : ∀ o ∈ book, 0 < o.wantBuy ∧ 0 < o.wantSell) (h0 : 0 < r0) (h1 : 0 < r1)
    (h : buyWithOrders O sorted r0 r1 book amountOut = .ok res) :
    (sortBook sorted book).Perm book ∧ (sortBook sorted book).Pairwise (goesBefore sorted) ∧
    Consumed (sortBook sorted book) res.fills :=
  ⟨sortBook_perm sorted book, sortBook_sorted sorted book, (buy_fills O sorted r0 r1 book amountOut res hbook h0 h1 h).1⟩

/-- The owner pays his own price or less, up to one unit of the coin he buys. -/
theorem fill_at_own_price (o : Order) (f : Fill) (h : FillOk o f) :
    f.sell * o.wantBuy < (f.buy + 1) * o.wantSell := by
  have := h.owner_price
  unfold fillSlack at this
  linarith

/-- Cross-multiplied: the remaining volumes `(wantBuy − Δbuy, wantSell − Δsell)` keep the order's price up to one unit of
    either coin. -/
theorem partial_keeps_price (o : Order) (f : Fill) (h : FillOk o f) :
    -o.wantSell < (o.wantSell - f.sell) * o.wantBuy - o.wantSell * (o.wantBuy - f.buy) ∧
    (o.wantSell - f.sell) * o.wantBuy - o.wantSell * (o.wantBuy - f.buy) < o.wantBuy := by
  have h1 := h.owner_price
  have h2 := h.taker_price
  unfold fillSlack at h1 h2
  constructor <;> linarith

/-! ## 3. `updateOrders`: a partially filled order stays with the reduced volumes; dust is closed and refunded -/

def ids (book : List Order) : List Nat := book.map (·.id)

theorem split_of_mem {book : List Order} {o : Order} (hnd : (ids book).Nodup) (hmem : o ∈ book) :
    ∃ pre post, book = pre ++ o :: post ∧ (∀ x ∈ pre, x.id ≠ o.id) ∧ ∀ x ∈ post, x.id ≠ o.id := by
  obtain ⟨pre, post, rfl⟩ := List.append_of_mem hmem
  simp only [ids, List.map_append, List.map_cons, List.nodup_append, List.nodup_cons, List.mem_map, List.mem_cons] at hnd
  exact ⟨pre, post, rfl, fun x hx e => hnd.2.2 _ ⟨x, hx, rfl⟩ _ (.inl rfl) e, fun x hx e => hnd.2.1.1 ⟨x, hx, e⟩⟩

theorem applyFill_append (f : Fill) (pre rest : List Order) (hpre : ∀ x ∈ pre, x.id ≠ f.id) :
    applyFill (pre ++ rest) f = (applyFill rest f).map fun p => (pre ++ p.1, p.2) := by
  induction pre with
  | nil => rw [List.nil_append]; cases applyFill rest f <;> rfl
  | cons x t ih =>
    rw [List.cons_append, applyFill, if_neg (hpre x (List.mem_cons_self ..)), ih fun y hy => hpre y (List.mem_cons_of_mem _ hy)]
    cases applyFill rest f <;> rfl

theorem dust_closed_refund (book : List Order) (f : Fill) (book' : List Order) (cl : List Closed) (o : Order)
    (hnd : (ids book).Nodup) (hmem : o ∈ book) (hid : o.id = f.id) (h : applyFill book f = .ok (book', cl))
    (hne : ¬ (o.wantBuy - f.buy = 0 ∨ o.wantSell - f.sell = 0))
    (hdust : o.wantBuy - f.buy < minOrderVolume ∨ o.wantSell - f.sell < minOrderVolume) :
    cl = [⟨o.id, o.owner, o.wantSell - f.sell, o.wantBuy - f.buy⟩] ∧ o.id ∉ ids book' := by
  obtain ⟨pre, post, rfl, h1, h2⟩ := split_of_mem hnd hmem
  rw [applyFill_append f pre _ (hid ▸ h1), applyFill, if_pos hid, if_neg fun hz => hne (.inl hz.1), if_neg hne,
    if_pos hdust] at h
  cases h
  refine ⟨rfl, fun hc => ?_⟩
  simp only [ids, List.map_append, List.mem_append, List.mem_map] at hc
  rcases hc with ⟨x, hx, e⟩ | ⟨x, hx, e⟩
  · exact h1 x hx e
  · exact h2 x hx e

theorem partial_stays (book : List Order) (f : Fill) (book' : List Order) (cl : List Closed) (o : Order)
    (hnd : (ids book).Nodup) (hmem : o ∈ book) (hid : o.id = f.id) (h : applyFill book f = .ok (book', cl))
    (hne : ¬ (o.wantBuy - f.buy = 0 ∨ o.wantSell - f.sell = 0))
    (hbig : ¬ (o.wantBuy - f.buy < minOrderVolume ∨ o.wantSell - f.sell < minOrderVolume)) :
    cl = [] ∧ { o with wantBuy := o.wantBuy - f.buy, wantSell := o.wantSell - f.sell } ∈ book' := by
  obtain ⟨pre, post, rfl, h1, _⟩ := split_of_mem hnd hmem
  rw [applyFill_append f pre _ (hid ▸ h1), applyFill, if_pos hid, if_neg fun hz => hne (.inl hz.1), if_neg hne,
    if_neg hbig] at h
  cases h
  exact ⟨rfl, List.mem_append_right _ (List.mem_cons_self ..)⟩

/-! ## 4. Cancelling and expiring -/

theorem cancelOrder_spec (book : List Order) (id : Nat) (o : Order) (book' : List Order)
    (h : cancelOrder book id = some (o, book')) : o ∈ book ∧ o.id = id ∧ book.Perm (o :: book') := by
  induction book generalizing book' with
  | nil => cases h
  | cons x t ih =>
    rw [cancelOrder] at h
    split_ifs at h with hx
    · cases h
      exact ⟨List.mem_cons_self .., hx, .refl _⟩
    · split at h
      · cases h
      · next y t' hrec =>
        cases h
        obtain ⟨h1, h2, h3⟩ := ih t' hrec
        exact ⟨List.mem_cons_of_mem _ h1, h2, (h3.cons x).trans (.swap o x t')⟩

theorem cancel_exact (book : List Order) (sender id : Nat) (refund : Int) (book' : List Order)
    (h : cancelTx book sender id = .ok (refund, book')) :
    ∃ o, o ∈ book ∧ o.id = id ∧ o.owner = sender ∧ refund = o.wantSell ∧ book.Perm (o :: book') := by
  unfold cancelTx at h
  split at h
  · cases h
  · next o b hc =>
    split_ifs at h with hown
    cases h
    obtain ⟨h1, h2, h3⟩ := cancelOrder_spec book id o _ hc
    exact ⟨o, h1, h2, not_not.mp hown, rfl, h3⟩

theorem cancel_owner_only (book : List Order) (sender id : Nat) (o : Order) (book' : List Order)
    (hc : cancelOrder book id = some (o, book')) (hne : o.owner ≠ sender) :
    cancelTx book sender id = .error .notOwner := by
  unfold cancelTx
  rw [hc]
  simp [hne]

theorem cancelOrder_append (id : Nat) (pre rest : List Order) (hpre : ∀ x ∈ pre, x.id ≠ id) :
    cancelOrder (pre ++ rest) id = (cancelOrder rest id).map fun p => (p.1, pre ++ p.2) := by
  induction pre with
  | nil => rw [List.nil_append]; cases cancelOrder rest id <;> rfl
  | cons x t ih =>
    rw [List.cons_append, cancelOrder, if_neg (hpre x (List.mem_cons_self ..)), ih fun y hy => hpre y (List.mem_cons_of_mem _ hy)]
    cases cancelOrder rest id <;> rfl

theorem cancelOrder_none_of_notin (book : List Order) (id : Nat) (h : id ∉ ids book) : cancelOrder book id = none := by
  have := cancelOrder_append id book [] fun x hx e => h (List.mem_map.mpr ⟨x, hx, e⟩)
  rwa [List.append_nil] at this

theorem cancel_once (book : List Order) (id : Nat) (o : Order) (book' : List Order) (hnd : (ids book).Nodup)
    (h : cancelOrder book id = some (o, book')) (sender : Nat) :
    cancelTx book' sender id = .error .notFound := by
  obtain ⟨_, rfl, hperm⟩ := cancelOrder_spec book _ o book' h
  have hnd' : (ids (o :: book')).Nodup := (hperm.map _).nodup_iff.mp hnd
  unfold cancelTx
  rw [cancelOrder_none_of_notin book' o.id (List.nodup_cons.mp hnd').1]

theorem cancelOrder_of_mem {book : List Order} {o : Order} (hnd : (ids book).Nodup) (hmem : o ∈ book) :
    ∃ book', cancelOrder book o.id = some (o, book') := by
  obtain ⟨pre, post, rfl, h1, _⟩ := split_of_mem hnd hmem
  exact ⟨pre ++ post, by rw [cancelOrder_append _ _ _ h1, cancelOrder, if_pos rfl]; rfl⟩

theorem cancel_returns_unfilled (book' : List Order) (o : Order) (f : Fill) (hnd : (ids book').Nodup)
    (hmem : { o with wantBuy := o.wantBuy - f.buy, wantSell := o.wantSell - f.sell } ∈ book') :
    ∃ book'', cancelTx book' o.owner o.id = .ok (o.wantSell - f.sell, book'') := by
  obtain ⟨b'', hb⟩ := cancelOrder_of_mem hnd hmem
  refine ⟨b'', ?_⟩
  unfold cancelTx
  simp only at hb
  rw [hb]
  simp

/-- What is expired is the prefix up to the first younger order (`takeWhile`, as the scan of `ExpireOrders` in id order);
    that no old order lies behind a younger one is not stated.  The refund does not appear: the expired orders are
    returned whole, each is refunded its `wantSell`. -/
theorem expire_exact (orders : List Order) (h : Nat) :
    (expireOrders orders h).1 ++ (expireOrders orders h).2 = orders ∧
    (∀ o ∈ (expireOrders orders h).1, o.height ≤ h) :=
  ⟨List.takeWhile_append_dropWhile, fun o ho => of_decide_eq_true (List.all_eq_true.mp List.all_takeWhile o ho)⟩

theorem expire_once (orders : List Order) (h : Nat) :
    (expireOrders (expireOrders orders h).2 h).1 = [] := by
  unfold expireOrders
  simp only
  induction orders with
  | nil => simp
  | cons x t ih =>
    by_cases hx : x.height ≤ h
    · simp [hx, ih]
    · simp [hx]

/-! ## Non-vacuity -/

def exO : Order := ⟨2, 30000000000, 27000000000, 8, 101⟩

example : partialSellAmount exO 9950049950 = .ok 8955044955 := by decide
example : FillOk exO ⟨2, 9950049950, 8955044955, 8⟩ := by
  refine ⟨rfl, rfl, ?_, ?_, ?_, ?_, ?_, ?_⟩ <;> decide
example : partialBuyAmounts exO 6005045455 = .ok (6672272727, 6005045455) := by decide
example : applyFill [exO] ⟨2, 29999999999, 26999999999, 8⟩ = .ok ([], [⟨2, 8, 1, 1⟩]) := by decide
example : applyFill [exO] ⟨2, 9950049950, 8955044955, 8⟩ =
    .ok ([⟨2, 20049950050, 18044955045, 8, 101⟩], []) := by decide
example : cancelTx [exO] 8 2 = .ok (27000000000, []) := by decide
example : cancelTx [exO] 9 2 = .error .notOwner := by decide
example : cancelTx [] 8 2 = .error .notFound := by decide
example : expireOrders [exO, ⟨3, 1, 1, 1, 200⟩] 150 = ([exO], [⟨3, 1, 1, 1, 200⟩]) := by decide

end Minter.Lob
