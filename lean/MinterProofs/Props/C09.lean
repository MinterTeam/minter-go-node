import MinterProofs.Persist.Restart
/-
  C09 — a restarted node continues exactly like one that never stopped, at the application-DB layer of
  `MinterModel/Persist.lean`.  `Sim` is kept by a block on both sides followed by any number of restarts on one
  (`Sim.step`), and related nodes answer every getter alike (`Sim.obs`).
  The caches of the state modules (order-book lists, candidates/stakes, dirty flags inside `state.*`) are NOT in this
  model; for them C09 rests on the restart-twin correspondence (`harness restart`) only.
  Hypotheses: `Coherent` holds for a fresh process (`fresh_coherent`) and is kept (`restart_ok`, `runBlock_ok`); `OpsOK`:
  no block sets the emission counter to 0, the one value that does not survive a restart (`emission_zero_lost`).
-/
namespace Minter
namespace Persist

theorem commit_flushes (cfg : Cfg) (n : Node) (hc : Coherent n) (h : Nat) (b : Block) (hok : OpsOK b.ops) (n' : Node)
    (hr : runBlock cfg n h b = some n') :
    Flushed n' ∧ ∃ r, restart n'.disk = some r ∧ observe r = observe n' ∧ logical r = logical n' ∧ Coherent r := by
  obtain ⟨hl, hc', hf, _, hlook, _⟩ := runBlock_ok hc hok hr
  obtain ⟨r, hr', lr, _⟩ := restart_some n'.disk h (congrArg Logical.height hl) (by rw [hlook]; rfl)
  exact ⟨hf, r, hr', by rw [observe_eq r lr.coh, observe_eq n' hc', lr.logical, hf], lr.logical.trans hf, lr.coh⟩

def restarts : Nat → Node → Option Node
  | 0, n => some n
  | k + 1, n => match restart n.disk with
    | none => none
    | some r => restarts k r

/-- Blocks `h, h+1, …`, each followed by that many restarts; the result lists what every getter answers after each block
    and its restarts.  `none`: `SaveVersion` refused a root (`Commit` panics) or a restart found no tree version. -/
def runSteps (cfg : Cfg) : Node → Nat → List (Block × Nat) → Option (List Obs)
  | _, _, [] => some []
  | n, h, (b, k) :: rest =>
    match runBlock cfg n h b with
    | none => none
    | some n1 =>
      match restarts k n1 with
      | none => none
      | some n2 => (runSteps cfg n2 (h + 1) rest).map (fun t => observe n2 :: t)

def StepsOK (steps : List (Block × Nat)) : Prop := ∀ s ∈ steps, OpsOK s.1.ops

theorem restarts_ok (k : Nat) : ∀ (n : Node) (h : Nat), Coherent n → Flushed n → n.disk.app.height = some h →
    (treeLookup h n.disk.tree).isSome →
    ∃ r, restarts k n = some r ∧ logical r = logical n ∧ Coherent r ∧ r.disk = n.disk := by
  induction k with
  | zero => intro n _ hc _ _ _; exact ⟨n, rfl, rfl, hc, rfl⟩
  | succ k ih =>
    intro n h hc hf hh ht
    obtain ⟨r, hr, lr, _⟩ := restart_some n.disk h hh ht
    have d1 : r.disk = n.disk := lr.disk
    obtain ⟨r2, hr2, l2, c2, d2⟩ := ih r h lr.coh (by unfold Flushed; rw [d1]; exact lr.logical.symm) (d1 ▸ hh) (d1 ▸ ht)
    exact ⟨r2, by simp only [restarts, hr]; exact hr2, by rw [l2, lr.logical]; exact hf, c2, d2.trans d1⟩

theorem Sim.step {lo : Nat} {a b : Node} (s : Sim lo a b) (cfg : Cfg) {h : Nat} (hlo : lo ≤ h) (blk : Block)
    (hok : OpsOK blk.ops) (k : Nat) :
    (runBlock cfg a h blk = none ∧ runBlock cfg b h blk = none) ∨
    ∃ a' r b', runBlock cfg a h blk = some a' ∧ restarts k a' = some r ∧ runBlock cfg b h blk = some b' ∧
      Sim lo r b' ∧ Flushed r ∧ Flushed b' := by
  have hsome : (runBlock cfg a h blk).isSome ↔ (runBlock cfg b h blk).isSome := by
    rw [runBlock_isSome s.left hok, runBlock_isSome s.right hok, SaveOk, SaveOk, s.tree h hlo]
  cases hra : runBlock cfg a h blk with
  | none => exact Or.inl ⟨rfl, by simpa [hra] using hsome⟩
  | some a' =>
    obtain ⟨b', hrb⟩ := Option.isSome_iff_exists.mp (hsome.mp (by rw [hra]; rfl))
    obtain ⟨x1, xc, xf, x4, x5, x6⟩ := runBlock_ok s.left hok hra
    obtain ⟨y1, yc, yf, y4, _, y6⟩ := runBlock_ok s.right hok hrb
    obtain ⟨r, hr, lr, cr, dr⟩ := restarts_ok k a' h xc xf (congrArg Logical.height x1) (by rw [x5]; rfl)
    refine Or.inr ⟨a', r, b', rfl, hr, hrb, ⟨cr, yc, by rw [lr, x1, y1, s.log], fun v hv => ?_⟩,
      by unfold Flushed; rw [dr, lr]; exact xf, yf⟩
    rw [dr, x4, y4, treeAfter_lookup _ _ x6, treeAfter_lookup _ _ y6, s.log, s.tree v hv]

theorem Sim.steps {lo : Nat} (cfg : Cfg) (steps : List (Block × Nat)) : ∀ {a b : Node} {h : Nat}, Sim lo a b → lo ≤ h →
    StepsOK steps → runSteps cfg a h steps = runSteps cfg b h (steps.map (fun s => (s.1, 0))) := by
  induction steps with
  | nil => intros; rfl
  | cons st rest ih =>
    intro a b h s hlo hok
    rcases s.step cfg hlo st.1 (hok st (by simp)) st.2 with ⟨e1, e2⟩ | ⟨a', r, b', e1, e2, e3, s', _, _⟩
    · simp only [runSteps, List.map_cons, e1, e2]
    · simp only [runSteps, List.map_cons, e1, e2, e3, restarts]
      rw [s'.obs, ih s' (by omega) (fun x hx => hok x (by simp [hx]))]

def runNodes (cfg : Cfg) : Node → Nat → List (Block × Nat) → Option Node
  | n, _, [] => some n
  | n, h, (b, k) :: rest =>
    match runBlock cfg n h b with
    | none => none
    | some n1 =>
      match restarts k n1 with
      | none => none
      | some n2 => runNodes cfg n2 (h + 1) rest

theorem Sim.nodes {lo : Nat} (cfg : Cfg) (steps : List (Block × Nat)) : ∀ {a b : Node} {h : Nat}, Sim lo a b → lo ≤ h →
    Flushed a → Flushed b → StepsOK steps →
    (runNodes cfg a h steps = none ∧ runNodes cfg b h (steps.map (fun s => (s.1, 0))) = none) ∨
    ∃ a' b', runNodes cfg a h steps = some a' ∧ runNodes cfg b h (steps.map (fun s => (s.1, 0))) = some b' ∧
      Sim lo a' b' ∧ Flushed a' ∧ Flushed b' := by
  induction steps with
  | nil => intro a b _ s _ fa fb _; exact Or.inr ⟨a, b, rfl, rfl, s, fa, fb⟩
  | cons st rest ih =>
    intro a b h s hlo _ _ hok
    rcases s.step cfg hlo st.1 (hok st (by simp)) st.2 with ⟨e1, e2⟩ | ⟨a', r, b', e1, e2, e3, s', fr, fb'⟩
    · exact Or.inl (by simp only [runNodes, List.map_cons, e1, e2, and_self])
    · simp only [runNodes, List.map_cons, e1, e2, e3, restarts]
      exact ih s' (by omega) fr fb' (fun x hx => hok x (by simp [hx]))

/-- C09.  The right-hand side is the same history without any restart; `none = none` is the two halting together. -/
theorem restart_bisim (cfg : Cfg) (n : Node) (hc : Coherent n) (h : Nat) (steps : List (Block × Nat))
    (hok : StepsOK steps) :
    runSteps cfg n h steps = runSteps cfg n h (steps.map (fun s => (s.1, 0))) :=
  Sim.steps cfg steps (.of_tree_eq hc hc rfl rfl) (Nat.zero_le h) hok

/-- `hf`: what is pending in memory does not survive the restart; a node is flushed after `runBlock` (`runBlock_ok`). -/
theorem restart_bisim_initial (cfg : Cfg) (n r : Node) (hc : Coherent n) (hf : Flushed n) (hr : restart n.disk = some r)
    (h : Nat) (steps : List (Block × Nat)) (hok : StepsOK steps) :
    runSteps cfg r h steps = runSteps cfg n h (steps.map (fun s => (s.1, 0))) := by
  have lr := restart_ok hr
  exact Sim.steps cfg steps (.of_tree_eq lr.coh hc (lr.logical.trans hf) (by rw [lr.disk])) (Nat.zero_le h) hok

/-! ### non-vacuity and the boundary of the hypotheses -/

def exNode : Node :=
  { mem := { startHeight := 5, lastHeight := 9, lastTimeBlocks := [100, 105], versions := [⟨1, 0⟩], emission := some 1000,
             isDirtyPrice := true, price := some ⟨7, 1, 2, 3, false⟩ },
    disk := { app := { hash := some 9, height := some 9, startHeight := some 5, validators := some [(1, 10)],
                       blockTimes := some [100, 105], versions := some [⟨1, 0⟩], emission := some 1000,
                       price := some ⟨7, 1, 2, 3, false⟩ },
              tree := [(9, 9), (8, 8)] } }

def exBlock (t hash : Nat) : Block :=
  { time := t, hash := hash, nEv := 2,
    ops := [.qDelta, .setEmission (fun e => e.getD 0 + 74), .setValidators (fun v => (2, 5) :: v), .addVersion 2 10,
            .setPrice (fun _ => ⟨8, 4, 5, 6, true⟩)] }

theorem exNode_coherent : Coherent exNode := by
  refine ⟨?_, ?_, ?_, ?_, ?_, ?_, ?_, ?_, ?_⟩ <;> simp [exNode, readEmission]

theorem exBlock_ok (t hash : Nat) : OpsOK (exBlock t hash).ops := by
  intro o ho
  simp only [exBlock, List.mem_cons, List.mem_nil_iff, or_false] at ho
  rcases ho with rfl | rfl | rfl | rfl | rfl <;> simp [OpOK]

example : (runSteps ⟨1⟩ exNode 10 [(exBlock 110 10, 1), (exBlock 117 11, 2), (exBlock 121 12, 0)]).isSome = true := by decide +kernel

example : ((runSteps ⟨1⟩ exNode 10 [(exBlock 110 10, 1), (exBlock 117 11, 2)]).map
    (fun t => t.map (fun o => (o.infoHeight, o.emission, o.versions.length)))) = some [(10, some 1074, 2), (11, some 1148, 3)] := by
  decide +kernel

/-- Why `OpsOK` is there: an emission counter of 0 is written as the empty byte string and read back as "absent". -/
theorem emission_zero_lost :
    ∃ n', runBlock ⟨1⟩ exNode 10 { time := 110, hash := 10, nEv := 0, ops := [.setEmission (fun _ => 0)] } = some n' ∧
      (observe n').emission = some 0 ∧ ∃ r, restart n'.disk = some r ∧ (observe r).emission = none := by
  refine ⟨_, rfl, by decide, _, rfl, by decide⟩

end Persist
end Minter
