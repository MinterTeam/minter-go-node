import MinterProofs.Persist.Crash
import MinterProofs.Props.C09
/-
  C29 — a state-synced node behaves like one that replayed every block (application-DB layer; `snapshot` =
  `AppDB.Snapshot`, `restore` = `AppDB.Restore` into an empty node).  The snapshot is a function of the logical content
  and of the tree root at `h` (`snapshot_fun_of_disk`), so C09 makes it the same on every node.  Restoring it gives back
  the logical content (an emission record of 0 is dropped, and already read as absent) and a tree that has version `h`
  only, which is `Sim h` with the producer: from there on C09's bisimulation applies unchanged (`restore_bisim`).
  Outside the model (exercised by `harness snapshot`, not proved): the IAVL export/import of the tree contents, the
  cosmos-sdk chunking/zlib/protobuf plumbing, the state modules' caches after `initState`, the events DB (not part of a snapshot).
-/
namespace Minter
namespace Persist

def snapRecsL (l : Logical) : List Rec :=
  (match l.validators with | some v => [Rec.validators v] | none => [])
  ++ (match l.height with | some v => [Rec.height v] | none => [])
  ++ (match l.hash with | some v => [Rec.hash v] | none => [])
  ++ (match l.versions with | some v => [Rec.versions v] | none => [])
  ++ (match l.times with | some v => [Rec.blockTimes v] | none => [])
  ++ (match l.startHeight with | some v => [Rec.startHeight v] | none => [])
  ++ (match l.emission with | some v => [Rec.emission v] | none => [])
  ++ (match l.price with | some v => [Rec.price v] | none => [])

theorem snapRecs_logical (d : Disk) : snapRecs d.app = snapRecsL (logicalOfDisk d) := by
  unfold snapRecs snapRecsL logicalOfDisk logical
  simp only [List.isEmpty_nil, ↓reduceIte]
  congr 2
  unfold readEmission
  cases d.app.emission with
  | none => rfl
  | some e => cases e <;> rfl

theorem snapshot_fun_of_disk (n : Node) (hc : Coherent n) (hf : Flushed n) (h : Nat) :
    snapshot n h =
      if h ≠ (logical n).height.getD 0 ∨ h = 0 then none
      else (treeLookup h n.disk.tree).map (fun root => { recs := snapRecsL (logical n), height := h, root := root }) := by
  unfold snapshot
  rw [getLastHeight_fst hc, snapRecs_logical, hf]
  split
  · rfl
  · cases treeLookup h n.disk.tree <;> rfl

theorem snapshot_same_on_every_node (cfg : Cfg) (n : Node) (hc : Coherent n) (hf : Flushed n) (h0 : Nat)
    (steps : List (Block × Nat)) (hok : StepsOK steps) (h : Nat) (hh : h0 ≤ h) :
    match runNodes cfg n h0 steps, runNodes cfg n h0 (steps.map (fun s => (s.1, 0))) with
    | some a, some b => snapshot a h = snapshot b h
    | none, none => True
    | _, _ => False := by
  rcases Sim.nodes cfg steps ⟨hc, hc, rfl, fun _ _ => rfl⟩ (Nat.le_refl h0) hf hf hok with
    ⟨e1, e2⟩ | ⟨a, b, e1, e2, s, fa, fb⟩
  · rw [e1, e2]; trivial
  · rw [e1, e2]
    show snapshot a h = snapshot b h
    rw [snapshot_fun_of_disk a s.left fa, snapshot_fun_of_disk b s.right fb, s.log, s.tree h hh]

theorem snapRecs_eq (a : AppDisk) : snapRecs a =
    (a.validators.map Rec.validators).toList ++ (a.height.map Rec.height).toList ++ (a.hash.map Rec.hash).toList ++
    (a.versions.map Rec.versions).toList ++ (a.blockTimes.map Rec.blockTimes).toList ++
    (a.startHeight.map Rec.startHeight).toList ++ ((readEmission a.emission).map Rec.emission).toList ++
    (a.price.map Rec.price).toList := by
  obtain ⟨_, _, _, _, _, _, em, _⟩ := a
  unfold snapRecs
  dsimp only
  congr 7
  any_goals (split <;> rfl)
  cases em with
  | none => rfl
  | some e => cases e <;> rfl

theorem setRecs_snapRecs (a : AppDisk) : setRecs {} (snapRecs a) = { a with emission := readEmission a.emission } := by
  simp only [snapRecs_eq, setRecs_append, setRecs_optValidators, setRecs_optHeight, setRecs_optHash, setRecs_optVersions,
    setRecs_optBlockTimes, setRecs_optStartHeight, setRecs_optEmission, setRecs_optPrice, Option.or_none]

/-- The node when `Blockchain.Commit` of block `h` starts the snapshot.  `top`: `h` is the newest version of its tree, so
    that the restored tree, which has version `h` only, agrees with it from `h` upwards. -/
structure Producer (n : Node) (h : Nat) (root : Hash) : Prop where
  coh : Coherent n
  flushed : Flushed n
  height : n.disk.app.height = some h
  hpos : 0 < h
  root : treeLookup h n.disk.tree = some root
  top : ∀ v, h < v → treeLookup v n.disk.tree = none

theorem producer_snapshot (n : Node) (h : Nat) (root : Hash) (hp : Producer n h root) :
    snapshot n h = some { recs := snapRecs n.disk.app, height := h, root := root } := by
  have hh : (getLastHeight n).1 = h := (getLastHeight_fst hp.coh).trans (congrArg (·.getD 0) hp.height)
  unfold snapshot
  have hpos := hp.hpos
  have : ¬ (h ≠ (getLastHeight n).1 ∨ h = 0) := by rw [hh]; omega
  simp only [this, ↓reduceIte, hp.root]

theorem restore_info (n : Node) (h : Nat) (root : Hash) (hp : Producer n h root) (s : Snapshot) (hs : snapshot n h = some s) :
    ∃ r, restart (restore s) = some r ∧ info r = info n ∧ logical r = logical n ∧ Coherent r ∧
      TreeAgree h r.disk.tree n.disk.tree := by
  rw [producer_snapshot n h root hp] at hs
  cases hs
  have hlog : logicalOfDisk (restore { recs := snapRecs n.disk.app, height := h, root := root }) = logical n := by
    rw [← hp.flushed]
    simp only [restore, logicalOfDisk, logical, setRecs_snapRecs, readEmission_idem]
  obtain ⟨r, hr, lr, _⟩ := restart_some (restore { recs := snapRecs n.disk.app, height := h, root := root }) h
    ((congrArg AppDisk.height (setRecs_snapRecs n.disk.app)).trans hp.height)
    (by show (if h = h then some root else none).isSome = true; rw [if_pos rfl]; rfl)
  refine ⟨r, hr, by rw [info_eq lr.coh, info_eq hp.coh, lr.logical, hlog], lr.logical.trans hlog, lr.coh, fun v hv => ?_⟩
  rw [lr.disk]
  show (if h = v then some root else none) = _
  by_cases hvh : h = v
  · rw [if_pos hvh, ← hvh, hp.root]
  · rw [if_neg hvh, hp.top v (by omega)]

/-- C29.  The restored tree has the one version `h`: `Sim h`, not `Sim 0`, and the blocks start at `h + 1`. -/
theorem restore_bisim (cfg : Cfg) (n : Node) (h : Nat) (root : Hash) (hp : Producer n h root) (s : Snapshot)
    (hs : snapshot n h = some s) (steps : List (Block × Nat)) (hok : StepsOK steps) :
    ∃ r, restart (restore s) = some r ∧ observe r = observe n ∧
      runSteps cfg r (h + 1) steps = runSteps cfg n (h + 1) (steps.map (fun s => (s.1, 0))) := by
  obtain ⟨r, hr, _, lr, cr, tr⟩ := restore_info n h root hp s hs
  have s : Sim h r n := ⟨cr, hp.coh, lr, tr⟩
  exact ⟨r, hr, s.obs, s.steps cfg steps (Nat.le_succ h) hok⟩

/-! ### non-vacuity -/

def pNode : Option Node := runBlock ⟨1⟩ exNode 10 (exBlock 110 10)

example : (pNode.bind (fun n => snapshot n 10)).map (fun s => (s.recs.map Rec.key, s.height, s.root)) =
    some (["validators", "height", "hash", "versions", "blockDelta", "startHeight", "emission", "price"], 10, 10) := by decide +kernel

example : (pNode.bind (fun n => (snapshot n 10).bind (fun s => (restart (restore s)).map (fun r => (info r, info n))))) =
    some ((10, some 10), (10, some 10)) := by decide +kernel

def proj (t : Option (List Obs)) := t.map (fun l => l.map (fun o => (o.infoHeight, o.emission, o.versions.length)))

example : proj (pNode.bind (fun n => (snapshot n 10).bind (fun s => (restart (restore s)).bind (fun r =>
      runSteps ⟨1⟩ r 11 [(exBlock 117 11, 1), (exBlock 121 12, 0)])))) = some [(11, some 1148, 3), (12, some 1222, 4)] := by
  decide +kernel

example : proj (pNode.bind (fun n => runSteps ⟨1⟩ n 11 [(exBlock 117 11, 0), (exBlock 121 12, 0)])) =
    some [(11, some 1148, 3), (12, some 1222, 4)] := by decide +kernel

end Persist
end Minter
