import MinterModel.Genesis
import MinterProofs.Genesis
import MinterProofs.Props.C01
import MinterProofs.Props.C22
/-
  C11 — Exported state round-trips through genesis.

  "Exporting the state at any height produces a genesis that passes validation.  A new chain started from that genesis exports
   the same state again: accounts, coins, candidates, stakes, waitlist, frozen funds, pools, orders, checks, votes and
   commissions.  That new chain also behaves like the original for subsequent transactions."

  Acceptance by `verifyState` is a conjunction of facts about the state (`verifyState_ok_iff_facts`): the volume comparisons
  follow from the C01 invariant, every other check from a named structural invariant (`ExportInv`).  `importState` is the
  identity by `rfl` on what it treats as data, so the round trip comes down to the derived values (`Settled`, `ImportFixed`).

  Model: `MinterModel/Genesis.lean` — `verifyState` mirrors `AppState.Verify()` check by check (the list `allChecks`, in the order
  of the Go code), `importState` is `State.Import` + `InitChain` as seen by the next export, `exportState` the canonical order.
  The definitions are tied to the node by the harness mode `export2` (real exports and 54 kinds of mutated exports through the
  real `Verify()` and through `verifyState`; `importState` against the node's re-export).

  NOT proved (see `C11_partial`): that the new chain *behaves* like the original for subsequent transactions (bounded evidence only:
  mode `export2` continues both chains with the same blocks and compares responses and exports); that the stake recalculation
  leaves a settled genesis alone (`Settled` is a hypothesis; where it fails is known finding F15); that every reachable state has
  the structural invariants outside the transaction model (validators ⊆ candidates, unique stakes, existing coins …: hypotheses
  here, checked on the node's exports by `Q wellformed` / `Q verify`).
-/
namespace Minter
namespace Genesis

/-! ### Volumes -/

theorem volumeChecksPass_iff (s : State) : volumeChecksPass s = true ↔ ∀ ci ∈ s.coins, goVolume s ci = ci.volume := by
  simp [volumeChecksPass, List.all_eq_true]

/-- Hypotheses beyond `Conserved` (the C01 invariant): coin ids are distinct and non-zero (C22), and no stake / update /
    waitlist entry is held in a token — `Verify()` leaves those out of a token's sum. -/
theorem export_verifies_volumes (s : State) (hc : Conserved s)
    (hn : (coinIds s).Nodup) (hp : ∀ ci ∈ s.coins, ci.id ≠ 0) (ht : tokensUnstaked s = true) :
    volumeChecksPass s = true := by
  rw [volumeChecksPass_iff]
  intro ci hm
  rw [goVolume_eq_holdings s ci hm ht, ← hc ci.id (hp ci hm)]
  exact volumeOf_unique s.coins ci hm hn

/-- `volumesOk` is the C01 monitor: part of `wellFormed`, and the driver prints its failures (`volumeViolations`) for every
    committed state. -/
theorem export_verifies_volumes_of_monitor (s : State) (hv : volumesOk s = true)
    (hp : ∀ ci ∈ s.coins, ci.id ≠ 0) (ht : tokensUnstaked s = true) :
    volumeChecksPass s = true := by
  rw [volumeChecksPass_iff]
  intro ci hm
  have := List.all_eq_true.mp hv ci hm
  simp only [Bool.or_eq_true, beq_iff_eq, decide_eq_true_eq] at this
  rw [goVolume_eq_holdings s ci hm ht, this.resolve_left (hp ci hm)]

theorem verified_volumes (base : String) (s : State) (h : verifyState base s = .ok ()) :
    ∀ ci ∈ s.coins, goVolume s ci = ci.volume :=
  have ⟨_, _, _, _, _, ⟨_, hcoins⟩, _⟩ := (verifyState_ok_iff_facts base s).mp h
  fun ci hm => (hcoins ci hm).2

/-! ### The remaining checks from named structural invariants -/

/-- Structural invariants of an exported state, one per group of checks of `Verify()`. -/
structure ExportInv (base : String) (s : State) : Prop where
  /-- `len(Validators) ≥ 1`. -/
  hasValidator : s.validators ≠ []
  valKeysNodup : (s.validators.map (·.pubkey)).Nodup
  valsAreCands : ∀ v ∈ s.validators, s.candidates.any (fun c => c.pubkey == v.pubkey) = true
  valTotalsNonneg : ∀ v ∈ s.validators, 0 ≤ v.totalBip
  accountsNodup : (s.nonces.map (·.1)).Nodup
  balanceCoins : ∀ b ∈ s.balances, coinExists s b.1.2 = true
  stakeCoins : ∀ cd ∈ s.candidates, ∀ st ∈ cd.stakes, coinExists s st.coin = true
  waitCoins : ∀ w ∈ s.waitlist, coinExists s w.coin = true
  frozenCoins : ∀ f ∈ s.frozen, coinExists s f.coin = true
  stakeKeysNodup : ∀ cd ∈ s.candidates, (cd.stakes.map (fun st => (st.owner, st.coin))).Nodup
  noBaseSymbol : ∀ ci ∈ s.coins, ci.symbol ≠ base
  /-- C22 -/
  coinIdsNodup : (coinIds s).Nodup
  idsNonzero : ∀ ci ∈ s.coins, ci.id ≠ 0
  /-- tokens are not staked (Delegate / DeclareCandidacy demand a reserve) -/
  unstaked : tokensUnstaked s = true
  /-- used checks are 32-byte hashes in hex -/
  checksWellFormed : ∀ h ∈ s.usedChecks, hexDecodes h = true ∧ h.toList.length = 64

theorem export_verifies_core (base : String) (s : State) (hi : ExportInv base s) (hvp : volumeChecksPass s = true) (ha : amountsOk s = true) :
    verifyState base s = .ok () := by
  simp only [amountsOk, Bool.and_eq_true, List.all_eq_true, decide_eq_true_eq] at ha
  obtain ⟨⟨⟨⟨⟨⟨⟨⟨hbal, -⟩, -⟩, hwait⟩, hfroz⟩, -⟩, -⟩, hacc⟩, hsl⟩ := ha
  have hvol := (volumeChecksPass_iff s).mp hvp
  exact (verifyState_ok_iff_facts base s).mpr
    ⟨⟨hsl, hi.hasValidator⟩,
     ⟨hi.valKeysNodup, fun v hv => ⟨hi.valsAreCands v hv, hi.valTotalsNonneg v hv, hacc v hv⟩⟩,
     hi.accountsNodup,
     fun b hb => ⟨Bag.nonneg_mem s.balances hbal b hb, hi.balanceCoins b hb⟩,
     fun cd hcd => ⟨hi.stakeKeysNodup cd hcd, hi.stakeCoins cd hcd⟩,
     ⟨hi.coinIdsNodup, fun ci hm => ⟨hi.noBaseSymbol ci hm, hvol ci hm⟩⟩,
     fun w hw => ⟨hwait w hw, hi.waitCoins w hw⟩,
     fun f hf => ⟨hfroz f hf, hi.frozenCoins f hf⟩,
     hi.checksWellFormed⟩

/-- First sentence of C11: the genesis passes validation (`Conserved` is the C01 invariant, `amountsOk` the C02 monitor). -/
theorem export_verifies (base : String) (s : State) (hi : ExportInv base s) (hc : Conserved s) (ha : amountsOk s = true) :
    verifyState base s = .ok () :=
  export_verifies_core base s hi (export_verifies_volumes s hc hi.coinIdsNodup hi.idsNonzero hi.unstaked) ha

/-! ### Invariants the transaction model maintains (C01, C22) -/

/-- The coin counter is the number of registered coins (`SetCoinsCount(len(state.Coins))` at import, one more per creation). -/
def CountExact (s : State) : Prop := s.ncoins = s.coins.length

theorem deliver_countExact (s s' : State) (ps : List Prim) (ha : applyChecked s ps = some s') (h : CountExact s) : CountExact s' := by
  obtain ⟨h1, h2⟩ := checked_registry s s' ps ha
  replace h2 := congrArg List.length h2
  simp only [coinIds, List.length_map, List.length_append] at h2
  unfold CountExact at *
  omega

theorem reach_export_inv (P : Params) (o : Oracle) (s s' : State) (hr : Reach P o s s')
    (hc : Conserved s) (hd : Dense s) (hn : (coinIds s).Nodup) (hp : ∀ i ∈ coinIds s, i ≠ 0) (he : CountExact s) :
    Conserved s' ∧ Dense s' ∧ (coinIds s').Nodup ∧ (∀ i ∈ coinIds s', i ≠ 0) ∧ CountExact s' := by
  induction hr with
  | refl s => exact ⟨hc, hd, hn, hp, he⟩
  | step s s1 s2 b t out hdl ha _ ih =>
    have h1 := C01_deliver_conserves P o s s1 b t out hdl ha hc
    obtain ⟨hd1, hn1, _, hnew⟩ := C22_dense_preserved P o s s1 b t out hdl ha hd hn
    have hids := (checked_registry s s1 out.plan ha).2
    refine ih h1.1 hd1 hn1 ?_ (deliver_countExact s s1 out.plan ha he)
    intro i hi
    rw [hids, List.mem_append] at hi
    rcases hi with hi | hi
    · exact hp i hi
    · obtain ⟨ci, hci, rfl⟩ := List.mem_map.mp hi
      have := (hnew ci hci).1
      omega

theorem reach_verifies_volumes (P : Params) (o : Oracle) (s s' : State) (hr : Reach P o s s')
    (hc : Conserved s) (hd : Dense s) (hn : (coinIds s).Nodup) (hp : ∀ i ∈ coinIds s, i ≠ 0) (he : CountExact s)
    (ht : tokensUnstaked s' = true) : volumeChecksPass s' = true := by
  obtain ⟨hc', _, hn', hp', _⟩ := reach_export_inv P o s s' hr hc hd hn hp he
  exact export_verifies_volumes s' hc' hn' (fun ci hm => hp' ci.id (List.mem_map.mpr ⟨ci, hm, rfl⟩)) ht

/-! ### Import ∘ export -/

theorem import_balances (R : Recalc) (s : State) : (importState R s).balances = s.balances := rfl
theorem import_nonces (R : Recalc) (s : State) : (importState R s).nonces = s.nonces := rfl
theorem import_multisigs (R : Recalc) (s : State) : (importState R s).multisigs = s.multisigs := rfl
theorem import_lockStake (R : Recalc) (s : State) : (importState R s).lockStake = s.lockStake := rfl
theorem import_coins (R : Recalc) (s : State) : (importState R s).coins = s.coins := rfl
theorem import_waitlist (R : Recalc) (s : State) : (importState R s).waitlist = s.waitlist := rfl
theorem import_frozen (R : Recalc) (s : State) : (importState R s).frozen = s.frozen := rfl
theorem import_pools (R : Recalc) (s : State) : (importState R s).pools = s.pools := rfl
theorem import_orders (R : Recalc) (s : State) : (importState R s).orders = s.orders := rfl
theorem import_usedChecks (R : Recalc) (s : State) : (importState R s).usedChecks = s.usedChecks := rfl
theorem import_halts (R : Recalc) (s : State) : (importState R s).halts = s.halts := rfl
theorem import_cvotes (R : Recalc) (s : State) : (importState R s).cvotes = s.cvotes := rfl
theorem import_uvotes (R : Recalc) (s : State) : (importState R s).uvotes = s.uvotes := rfl
theorem import_blocklist (R : Recalc) (s : State) : (importState R s).blocklist = s.blocklist := rfl
theorem import_deleted (R : Recalc) (s : State) : (importState R s).deleted = s.deleted := rfl
theorem import_commission (R : Recalc) (s : State) : (importState R s).commission = s.commission := rfl
theorem import_slashed (R : Recalc) (s : State) : (importState R s).slashed = s.slashed := rfl
theorem import_maxGas (R : Recalc) (s : State) : (importState R s).maxGas = s.maxGas := rfl
theorem import_emission (R : Recalc) (s : State) : (importState R s).emission = s.emission := rfl
theorem import_price (R : Recalc) (s : State) : (importState R s).price = s.price := rfl
theorem import_versions (R : Recalc) (s : State) : (importState R s).versions = s.versions := rfl

theorem import_ncoins (R : Recalc) (s : State) (h : CountExact s) : (importState R s).ncoins = s.ncoins := h.symm

/-- The hypothesis is the form `NextOrderID` has in an export: 0 exactly when no pool exists. -/
theorem import_nextOrder (R : Recalc) (s : State) (h : s.nextOrder = 0 ↔ s.pools = []) : (importState R s).nextOrder = s.nextOrder := by
  show (if s.nextOrder > 1 then s.nextOrder else if s.pools.isEmpty then 0 else 1) = s.nextOrder
  rw [← List.isEmpty_iff] at h
  split
  · rfl
  · split
    · next hp => exact (h.mpr hp).symm
    · next hp => have := mt h.mp hp; omega

/-- The recalculation finds nothing to recompute in this genesis: no pending updates to apply, bip values and totals current.
    (Where this fails the round trip differs in exactly those derived values: known finding F15.) -/
structure Settled (R : Recalc) (s : State) : Prop where
  cands : R.cands s.candidates = s.candidates
  vals : R.vals s.candidates s.validators = s.validators
  total : R.total s.candidates = s.totalStakes

/-- The derived scalars are in the form an export of a committed state has. -/
structure ImportFixed (s : State) : Prop where
  count : CountExact s
  nextOrder : s.nextOrder = 0 ↔ s.pools = []
  /-- the reward is the reward of the price record (the safe reward is carried by the genesis) -/
  reward : s.reward = priceLast s
  /-- a committed state has an empty fee pool -/
  noFees : s.rewardsPool = 0

theorem import_id (R : Recalc) (s : State) (hs : Settled R s) (hf : ImportFixed s) : importState R s = s := by
  have h := import_nextOrder R s hf.nextOrder
  cases s
  simp only [importState, State.mk.injEq, true_and]
  exact ⟨hs.cands, hs.vals, h, hf.count.symm, hf.reward.symm, hf.noFees.symm, hs.total⟩

theorem priceLast_export (s : State) : priceLast (exportState s) = priceLast s := rfl

theorem importFixed_export (s : State) (hf : ImportFixed s) : ImportFixed (exportState s) where
  count := hf.count.trans (sortBy_perm _ _).length_eq.symm
  nextOrder := hf.nextOrder.trans (sortBy_eq_nil _ _).symm
  reward := hf.reward
  noFees := hf.noFees

theorem import_export_id (R : Recalc) (s : State) (hs : Settled R (exportState s)) (hf : ImportFixed s) :
    importState R (exportState s) = exportState s :=
  import_id R (exportState s) hs (importFixed_export s hf)

/-! ### The monitor `wellFormed` -/

/-- What the theorems here use of the monitor the harness evaluates on every real export (`Q wellformed`). -/
theorem wellFormed_facts (s : State) (h : wellFormed s = .ok ()) :
    (∀ base, (∀ ci ∈ s.coins, ci.symbol ≠ base) → ExportInv base s) ∧ volumesOk s = true ∧ amountsOk s = true ∧ ImportFixed s := by
  obtain ⟨hasValidator, valKeysNodup, valsAreCands, valTotalsNonneg, accountsNodup, balanceCoins, stakeCoins, waitCoins, frozenCoins,
    stakeKeysNodup, coinIdsNodup, checksWellFormed, hvol, noFees, idsPos, count, unstaked, hamt,
    -, -, -, -, -, -, -, -, -, -, -, -, -, nextOrder, reward, -⟩ := (wellFormed_ok_pass s).mp h
  simp only [List.all_eq_true, decide_eq_true_eq, Bool.and_eq_true, beq_iff_eq, nodupB_iff, Bool.not_eq_eq_eq_not, Bool.not_true,
    List.isEmpty_eq_false_iff]
    at hasValidator valKeysNodup valsAreCands valTotalsNonneg accountsNodup balanceCoins stakeCoins waitCoins frozenCoins
      stakeKeysNodup coinIdsNodup checksWellFormed idsPos noFees count nextOrder reward
  refine ⟨fun base noBaseSymbol => ?_, hvol, hamt, count, ?_, reward, noFees⟩
  · have idsNonzero : ∀ ci ∈ s.coins, ci.id ≠ 0 := fun ci hm => Nat.pos_iff_ne_zero.mp (idsPos ci hm)
    exact { hasValidator, valKeysNodup, valsAreCands, valTotalsNonneg, accountsNodup, balanceCoins, stakeCoins, waitCoins,
            frozenCoins, stakeKeysNodup, noBaseSymbol, coinIdsNodup, idsNonzero, unstaked, checksWellFormed }
  · rw [← List.isEmpty_iff, ← nextOrder.2, beq_iff_eq]

theorem wellFormed_inv (base : String) (s : State) (h : wellFormed s = .ok ()) (hb : ∀ ci ∈ s.coins, ci.symbol ≠ base) :
    ExportInv base s ∧ volumesOk s = true ∧ amountsOk s = true :=
  have ⟨hi, hv, ha, _⟩ := wellFormed_facts s h
  ⟨hi base hb, hv, ha⟩

theorem wellFormed_verifies (base : String) (s : State) (h : wellFormed s = .ok ()) (hb : ∀ ci ∈ s.coins, ci.symbol ≠ base) :
    verifyState base s = .ok () := by
  obtain ⟨hi, hv, ha⟩ := wellFormed_inv base s h hb
  exact export_verifies_core base s hi (export_verifies_volumes_of_monitor s hv hi.idsNonzero hi.unstaked) ha

theorem wellFormed_importFixed (s : State) (h : wellFormed s = .ok ()) : ImportFixed s :=
  (wellFormed_facts s h).2.2.2

/-- Known finding F15: a recalculation that applies pending stake updates (no candidate has any afterwards —
    what `RecalculateStakesV2` does) is not the identity on a genesis that carries some, whatever else it does. -/
theorem pending_updates_not_roundtrip (R : Recalc) (s : State)
    (happly : ∀ cd ∈ R.cands s.candidates, cd.updates = [])
    (hpending : ∃ cd ∈ s.candidates, cd.updates ≠ []) :
    importState R s ≠ s :=
  fun h => let ⟨cd, hcd, hne⟩ := hpending
    have e : R.cands s.candidates = s.candidates := congrArg State.candidates h
    hne (happly cd (e.symm ▸ hcd))

theorem exportState_idem (s : State)
    (h1 : s.coins.Pairwise (fun a b => (decide (b.id < a.id)) = false))
    (h2 : s.candidates.Pairwise (fun a b => (decide (b.id < a.id)) = false))
    (h3 : s.pools.Pairwise (fun a b => (decide (b.id < a.id)) = false))
    (h4 : s.orders.Pairwise (fun a b => (decide (b.id < a.id)) = false))
    (h5 : s.validators.Pairwise (fun a b => (decide (b.pubkey < a.pubkey)) = false)) :
    exportState s = s := by
  unfold exportState
  rw [sortBy_sorted _ _ h1, sortBy_sorted _ _ h2, sortBy_sorted _ _ h3, sortBy_sorted _ _ h4, sortBy_sorted _ _ h5]

/-- C11 as far as it is proved, `s` being the exported data of a chain at some height: the genesis passes validation; the chain
    started from it holds the same state, every component, and so exports it again, in canonical order as well; that re-export
    passes validation.  What is missing for the full property is listed at the head of the file. -/
theorem C11_partial (base : String) (R : Recalc) (s : State)
    (hi : ExportInv base s) (hc : Conserved s) (ha : amountsOk s = true)
    (hf : ImportFixed s) (hs : Settled R s) (hse : Settled R (exportState s)) :
    verifyState base s = .ok ()
    ∧ importState R s = s
    ∧ importState R (exportState s) = exportState s
    ∧ verifyState base (importState R s) = .ok () := by
  have h1 := export_verifies base s hi hc ha
  have h2 := import_id R s hs hf
  exact ⟨h1, h2, import_export_id R s hse hf, by rw [h2]; exact h1⟩

/-- `wellFormed s = .ok ()` is what mode `export2` asserts for every export of the node (`Q wellformed`). -/
theorem C11_partial_monitor (base : String) (R : Recalc) (s : State)
    (hw : wellFormed s = .ok ()) (hb : ∀ ci ∈ s.coins, ci.symbol ≠ base) (hs : Settled R s) :
    verifyState base s = .ok () ∧ importState R s = s ∧ verifyState base (importState R s) = .ok () := by
  have h1 := wellFormed_verifies base s hw hb
  have h2 := import_id R s hs (wellFormed_importFixed s hw)
  exact ⟨h1, h2, by rw [h2]; exact h1⟩

/-! ### Non-vacuity -/

def exGenesis : State :=
  { balances := [((1, 0), 1000), ((1, 7), 400), ((2, 8), 90)],
    nonces := [(1, 3), (2, 0)],
    coins := [{ id := 7, symbol := "TOK", version := 0, volume := 500, reserve := 0, crr := 0, maxSupply := 1000, owner := some 1, mintable := true, burnable := true },
              { id := 8, symbol := "COIN", version := 0, volume := 100, reserve := 50, crr := 50, maxSupply := 1000, owner := some 2, mintable := false, burnable := false }],
    candidates := [{ id := 1, pubkey := 11, owner := 1, reward := 1, control := 1, commission := 10, status := 2, jailedUntil := 0, lastEditCommission := 0,
                     totalBip := 60, stakes := [{ owner := 1, coin := 0, value := 55, bip := 55 }, { owner := 2, coin := 8, value := 10, bip := 5 }], updates := [] }],
    validators := [{ pubkey := 11, totalBip := 60, accum := 0, absent := [] }],
    frozen := [{ height := 100, addr := 1, candKey := none, candId := 0, coin := 7, value := 50, moveTo := 0 }],
    pools := [{ c0 := 0, c1 := 7, id := 1, r0 := 20, r1 := 40 }],
    orders := [{ id := 1, c0 := 0, c1 := 7, isSale := true, v0 := 5, v1 := 10, owner := 1, height := 90 }],
    usedChecks := ["00112233445566778899aabbccddeeff00112233445566778899aabbccddeeff"],
    nextOrder := 2, ncoins := 2, price := "1 1 1 7 false", reward := 7, safeReward := 7 }

def idRecalc : Recalc := { cands := fun c => c, vals := fun _ v => v, total := fun _ => 0 }

-- `#guard`, not `decide`: strings do not reduce in the kernel
#guard verdict (verifyState "BIP" exGenesis) == "ok"
#guard verdict (wellFormed exGenesis) == "ok"
#guard (diffFields (importState idRecalc exGenesis) exGenesis).isEmpty
#guard verdict (verifyState "BIP" { exGenesis with frozen := [] }) == "token-volume"
#guard verdict (verifyState "BIP" { exGenesis with validators := [] }) == "no-validators"
#guard verdict (verifyState "BIP" { exGenesis with slashed := -1 }) == "slashed"
#guard verdict (verifyState "TOK" exGenesis) == "base-declared"
#guard verdict (verifyState "BIP" { exGenesis with waitlist := [{ cand := 1, owner := 1, coin := 9, value := 1 }] }) == "waitlist-coin"
#guard verdict (verifyState "BIP" { exGenesis with usedChecks := ["0011"] }) == "check-size"
-- `Verify()` does not look at the next order id; the monitor does
#guard verdict (verifyState "BIP" { exGenesis with nextOrder := 0 }) == "ok"
#guard verdict (wellFormed { exGenesis with nextOrder := 0 }) == "next-order"

example : Conserved exGenesis := by
  intro c hc
  by_cases h7 : c = 7
  · subst h7; decide
  · by_cases h8 : c = 8
    · subst h8; decide
    · simp [exGenesis, volumeOf, holdings, sumBy, Bag.sumIf, candHoldings, stakeOf, poolHoldings, orderEscrow, Ne.symm hc, Ne.symm h7,
        Ne.symm h8]

example : (coinIds exGenesis).Nodup ∧ (∀ ci ∈ exGenesis.coins, ci.id ≠ 0) ∧ tokensUnstaked exGenesis = true ∧ amountsOk exGenesis = true := by
  decide

example : volumeChecksPass exGenesis = true := by decide

example : Settled idRecalc { exGenesis with totalStakes := 0 } := ⟨rfl, rfl, rfl⟩

/-- F15 is not vacuous: a genesis with a pending update and a recalculation that applies it. -/
example : importState { idRecalc with cands := fun cs => cs.map (fun cd => { cd with updates := [] }) }
      { exGenesis with candidates := exGenesis.candidates.map (fun cd => { cd with updates := [{ owner := 2, coin := 0, value := 1, bip := 1 }] }) }
    ≠ { exGenesis with candidates := exGenesis.candidates.map (fun cd => { cd with updates := [{ owner := 2, coin := 0, value := 1, bip := 1 }] }) } := by
  apply pending_updates_not_roundtrip
  · intro cd hcd
    simp only [List.mem_map] at hcd
    obtain ⟨_, _, rfl⟩ := hcd
    rfl
  · exact ⟨_, List.mem_cons_self, by simp⟩

end Genesis
end Minter
