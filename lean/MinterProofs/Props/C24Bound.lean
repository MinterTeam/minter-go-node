import MinterProofs.Props.C24
/-
  C24 — the bound of `C24_load_commit_partial` is sharp: concrete witnesses at the uint16 id width (known finding F25).
  Both were replayed on the real store: harness mode `events`, thorough tier, sequences `id-width-65535-restart` and
  `id-width-65536-nokey`.
-/
namespace Minter
namespace Ev

def manyJails (n : Nat) : List Event := (List.range' 1 n).map (fun k => Event.jail k 0)

theorem seenKeysB_jails (l ks : List Nat) :
    seenKeysB ks (l.map (fun k => Event.jail k 0)) = l.foldl addKey ks := by
  induction l generalizing ks with
  | nil => rfl
  | cons a l ih => simp only [List.map_cons, seenKeysB_cons, Event.keys, List.foldl_cons, List.foldl_nil, ih]

theorem seenAddrsB_jails (l as : List Nat) :
    seenAddrsB as (l.map (fun k => Event.jail k 0)) = as := by
  induction l generalizing as with
  | nil => rfl
  | cons a l ih => simp only [List.map_cons, seenAddrsB_cons, Event.addrs, List.foldl_nil, ih]

theorem foldl_addKey_fresh (l ks : List Nat) (hn : l.Nodup) (hd : ∀ x ∈ l, x ∉ ks) : l.foldl addKey ks = ks ++ l := by
  induction l generalizing ks with
  | nil => simp
  | cons a l ih =>
    have hn' := List.nodup_cons.mp hn
    rw [List.foldl_cons, addKey_of_not_mem (hd a List.mem_cons_self), List.append_cons ks a l]
    refine ih _ hn'.2 fun x hx hm => ?_
    rcases List.mem_append.mp hm with hm | hm
    · exact hd x (List.mem_cons_of_mem a hx) hm
    · exact hn'.1 (List.mem_singleton.mp hm ▸ hx)

theorem seenKeys_manyJails (n : Nat) : seenKeysB [] (manyJails n) = List.range' 1 n := by
  unfold manyJails
  rw [seenKeysB_jails, foldl_addKey_fresh _ _ (List.nodup_range' 1) (by simp)]
  simp

theorem manyJails_wf (n : Nat) : ∀ e ∈ manyJails n, e.WF := by
  intro e he
  simp only [manyJails, List.mem_map] at he
  obtain ⟨k, _, rfl⟩ := he
  simp [Event.WF]

theorem manyJails_succ (m : Nat) :
    manyJails (m + 1) = Event.jail 1 0 :: (List.range' 2 m).map (fun k => Event.jail k 0) := by
  simp [manyJails, List.range'_succ]

theorem jails_state (n : Nat) (hn1 : 1 ≤ n) (hm : n ≤ 65535) :
    ∃ st pid rs', commit EvStore.empty 1 (manyJails n) = some st ∧
      Good st (List.range' 1 n) [] ∧
      st.disk.blocks.get? 1 = some (Rec.jail pid 0 :: rs') ∧
      load st 1 = .ok (manyJails n) := by
  obtain ⟨st, hc⟩ := Option.isSome_iff_exists.mp (commit_isSome EvStore.empty 1 fun e he => (manyJails_wf n e he).roleOK)
  have hkeys := seenKeys_manyJails n
  have haddrs : seenAddrsB [] (manyJails n) = [] := seenAddrsB_jails _ []
  obtain ⟨g, _, _, x⟩ := commit_inv Inv_empty (fun _ => Nat.zero_le _) (by rw [hkeys, List.length_range']; exact hm)
    (by rw [haddrs]; exact Nat.zero_le _) hc
  rw [hkeys, haddrs] at g
  -- the first stored record is the jail record of key 1
  obtain ⟨st1, rs, hca, rfl⟩ := commit_eq_some hc
  obtain ⟨m, rfl⟩ := Nat.exists_eq_add_of_le' hn1
  rw [manyJails_succ m] at hca
  obtain ⟨st0, r, rs', he, _, rfl⟩ := compactAll_cons_some hca
  simp only [compactEv] at he
  cases he
  exact ⟨_, _, rs', hc, g, (Tbl.get?_set _ 1 1 _).trans (if_pos rfl), x (manyJails_wf _)⟩

theorem reach_single {h : Nat} {b : List Event} {st : EvStore} (hc : commit EvStore.empty h b = some st) :
    Reach [.commit h b] st := by
  simp only [Reach, run, step, hc]

theorem restart_forgets_keys {st : EvStore} (hcount : st.disk.pkCount = some 65535)
    {pid : Nat} {rs' : List Rec} (hb : st.disk.blocks.get? 1 = some (Rec.jail pid 0 :: rs')) (b' : List Event) :
    load (restart st) 1 ≠ .ok (Event.jail 1 0 :: b') := by
  have hpk : (loadPubKeys (restart st)).cache = {} := by simp only [loadPubKeys, restart, hcount]; rfl
  have hid : (loadCache (restart st)).cache.idPub.get? pid = none := by
    unfold loadCache
    rw [if_pos (show (restart st).cache.idPub.len = 0 from Tbl.len_empty), (loadAddresses_frame _).2.1, hpk]
    exact Tbl.get?_empty pid
  simp only [load, loadCache_disk, show (restart st).disk = st.disk from rfl, hb, expandAll, expand, hid]
  cases expandAll (loadCache (restart st)).cache rs' with
  | none => nofun
  | some es => exact fun e => by cases e

/-- `LoadEvents(1)` returns the jail events of 65 535 distinct validators faithfully until the store is restarted: the new
    store object on the same DB has reloaded no key at all, because `loadPubKeys` loops `for id := 1; id < count+1` in uint16
    and 65535+1 = 0.  So `C24_restart_transparent` and `C24_load_stable` fail with 65 535 keys. -/
theorem C24_restart_breaks_at_65535 :
    ∃ st, Reach [.commit 1 (manyJails 65535)] st ∧
      (seenKeys [] [.commit 1 (manyJails 65535)]).length = 65535 ∧
      AllWF [.commit 1 (manyJails 65535)] ∧
      load st 1 = .ok (manyJails 65535) ∧
      load (restart st) 1 ≠ .ok (manyJails 65535) := by
  obtain ⟨st, pid, rs', hc, g, hb, hl⟩ := jails_state 65535 (by decide) (by decide)
  refine ⟨st, reach_single hc, ?_, ⟨manyJails_wf _, trivial⟩, hl, ?_⟩
  · simp only [seenKeys]; rw [seenKeys_manyJails, List.length_range']
  · have hcount : st.disk.pkCount = some 65535 := by rw [g.dp.count, List.length_range']; rfl
    rw [manyJails_succ 65534]
    exact restart_forgets_keys hcount hb _

/-! ### the 65 536th key gets id 0 -/

theorem reach_two {h1 h2 : Nat} {b1 b2 : List Event} {s1 s2 : EvStore}
    (c1 : commit EvStore.empty h1 b1 = some s1) (c2 : commit s1 h2 b2 = some s2) :
    Reach [.commit h1 b1, .commit h2 b2] s2 := by
  simp only [Reach, run, step, c1, c2]

theorem saveAddress_idPub (st : EvStore) (a : Nat) : (saveAddress st a).1.cache.idPub = st.cache.idPub := by
  cases hq : st.cache.addrId.get? a with
  | some id => rw [saveAddress_found hq]
  | none => rw [saveAddress_new hq]; rfl

theorem loadCache_nonempty {st : EvStore} (h : st.cache.idPub.len ≠ 0) : loadCache st = st :=
  if_neg h

theorem commit_key_65536 {st : EvStore} {ks as : List Nat} (g : Good st ks as) (hlen : ks.length = 65535)
    {k : Nat} (hk : k ∉ ks) (h ju : Nat) :
    ∃ st2, commit st h [Event.jail k ju] = some st2 ∧ st2.cache.idPub.get? 0 = some k ∧ st2.cache.idPub.len ≠ 0 := by
  have hl : st.cache.idPub.len = 65535 := g.pw.flen.trans hlen
  have hid : (st.cache.idPub.len % pkMod + 1) % pkMod = 0 := by rw [hl]; rfl
  have h0 : st.cache.idPub.get? 0 = none := g.pw.get 0
  unfold commit
  rw [loadCache_nonempty (by rw [hl]; nofun)]
  simp only [compactAll, compactEv, savePubKey_new (g.pw.get?_eq_none.mpr hk), hid]
  refine ⟨_, rfl, ?_, ?_⟩
  · exact (Tbl.get?_set _ 0 0 k).trans (if_pos rfl)
  · show (st.cache.idPub.set 0 k).len ≠ 0
    rw [Tbl.len_set, h0, hl]; nofun

theorem nokey_loads_key {st : EvStore} {k : Nat} (h0 : st.cache.idPub.get? 0 = some k) (hl : st.cache.idPub.len ≠ 0)
    (h a : Nat) (amount : Int) (coin : Nat) :
    ∃ st' a' amount' coin', commit st h [Event.unbond a amount coin none] = some st' ∧
      load st' h = .ok [Event.unbond a' amount' coin' (some k)] := by
  rcases hsa : saveAddress st a with ⟨st1, aid⟩
  have hidp : st1.cache.idPub = st.cache.idPub := by rw [← saveAddress_idPub st a, hsa]
  unfold commit
  rw [loadCache_nonempty hl]
  simp only [compactAll, compactEv, hsa, savePubKey]
  refine ⟨_, (st1.cache.idAddr.get? aid).getD 0, Int.ofNat amount.natAbs, u32 coin, rfl, ?_⟩
  unfold load
  rw [loadCache_nonempty (hidp ▸ hl)]
  simp only [Tbl.get?_set, if_true, expandAll, expand, hidp, h0]

/-- The 65 536th distinct key is interned under id 0 — the value that marks "this unbond has no validator key".  From then on
    an unbond event committed *without* a validator key (all events well-formed, no restart involved) loads back *with* the
    65 536th validator's key. -/
theorem C24_nokey_breaks_at_65536 :
    ∃ st, Reach [.commit 1 (manyJails 65535), .commit 2 [.jail 65536 0]] st ∧
      (seenKeys [] [.commit 1 (manyJails 65535), .commit 2 [.jail 65536 0]]).length = 65536 ∧
      AllWF [.commit 1 (manyJails 65535), .commit 2 [.jail 65536 0], .commit 3 [.unbond 7 5 0 none]] ∧
      ∃ st' a amount coin, commit st 3 [.unbond 7 5 0 none] = some st' ∧
        load st' 3 = .ok [.unbond a amount coin (some 65536)] ∧
        load st' 3 ≠ .ok [.unbond 7 5 0 none] := by
  obtain ⟨st1, _, _, hc, g, _, _⟩ := jails_state 65535 (by decide) (by decide)
  have hnot : 65536 ∉ List.range' 1 65535 := fun hm => by
    have := (List.mem_range'_1.mp hm).2
    omega
  obtain ⟨st2, c2, g0, gl⟩ := commit_key_65536 g List.length_range' hnot 2 0
  obtain ⟨st3, a', amt', coin', c3, l3⟩ := nokey_loads_key g0 gl 3 7 5 0
  refine ⟨st2, reach_two hc c2, ?_, ⟨manyJails_wf _, ⟨fun e he => List.mem_singleton.mp he ▸ trivial,
    ⟨fun e he => List.mem_singleton.mp he ▸ ⟨by decide, by decide⟩, trivial⟩⟩⟩, st3, a', amt', coin', c3, l3, ?_⟩
  · simp only [seenKeys]
    rw [seenKeys_manyJails]
    simp only [seenKeysB, List.foldl_cons, List.foldl_nil, Event.keys, addKey_of_not_mem hnot]
    rw [List.length_append, List.length_range']; rfl
  · rw [l3]; nofun

end Ev
end Minter
