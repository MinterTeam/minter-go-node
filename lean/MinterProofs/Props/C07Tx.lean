import MinterProofs.C07Deliver
/-
  C07 — No input can crash the node: the transaction layer of the model (DeliverTx and CheckTx of all 37 transaction types).

  Every place where the Go code panics, dereferences nil or divides by zero is an explicit `Stop.panic` site of the model
  (MinterModel/TxBase … Tx.lean). The table lists each site, the Go site it stands for and the lemma that closes it. The two main
  theorems put them together: on a state with the decidable invariant `txInvB` (MinterModel/TxInv.lean; `TxInv`, `txInv_iff`; the driver
  evaluates it on every committed state: `VIOL C07 tx-invariant-broken <clause>`), for every oracle (NO assumption on the answers of
  the bonding-curve functions is needed: they only feed response codes and amounts), every block and every transaction whose decoded
  integers are non-negative (`TxWf`; RLP cannot encode a negative integer), DeliverTx / CheckTx stop at no Go panic site. Coverage:
    * all 37 transaction types (1–18, 20–38), every commission route (base coin, bancor reserve, swap pool {gas coin, BIP}),
      the price conversion from a custom price-table coin, the failure-fee path incl. the fee capped at the payer's balance, the
      ticker burn, and the deliver half (`execReady`: commission payment + `Ready.exec`);
    * swap routes / commissions / price conversions that cross a pool WITH limit orders are outside the model (`Stop.unmodelled
      "orders on …"`, which is not a panic; the order book has its own component: MinterModel/Orders.lean, with `Lob.ratInt_eq_ediv` in FloatLemmas.lean);
    * BuySwapPool (24) under the extra hypothesis `ValueToBuy ≤ 10^33` (see site B6 below);
    * faults INSIDE the four formula functions (oracle questions) are not represented here (C12 component);
    * the eight `model: …` guards (`modelGuards`) are self-checks of the model (row G), not Go panics.
  Two of the sites were reachable in the real node and are closed by fixes in /repo (A3: 19af872, F33; C3: abd6676, F32); the model
  carries the same two guards.

  ┌────┬──────────────────────────────────────────────────┬──────────────────────────────────────────────────────────┬───────────────────────────────────────────────┐
  │ id │ model site (`Stop.panic …` / `Quote.panic`)       │ Go site it stands for (/repo/coreV2/…)                    │ status                                        │
  ├────┼──────────────────────────────────────────────────┼──────────────────────────────────────────────────────────┼───────────────────────────────────────────────┤
  │ A1 │ TxBase `checkSwapQuote` .panic w (2×)              │ state/swap/orderV2.go:317, :492 `panic(err)` after         │ unreachable: `checkSwapQuote_total`           │
  │    │ (= Kernels `bfsNoOrders`/`sfbNoOrders` .panic)     │ `pair.CheckSwap` in calculate{BuyForSell,SellForBuy}WithOrders │ (`C07_quote_no_panic`; reserves > 0, amount ≥ 0)│
  │ A2 │ TxBase `toBase` "price-table coin without a pool" │ transaction/executor_v3.go:196, :229, :347 `GetSwapper(Coin,0)` = │ unreachable: `toBase_noPanic` (TxInv.priceCoinPool; │
  │    │                                                    │ nil pair → nil dereference in CheckSwap                   │ VoteCommission checks the pool, vote_commission_v3.go:117) │
  │ A3 │ negative price into `toBase` (no site of its own:  │ executor_v3.go:179 `tx.Price` = multisend_base+(len−1)·delta│ unreachable: `basePrice_noPanic` (`basePrice` rejects a    │
  │    │ reached A1 / a big.Int division by zero)           │ (multisend.go, *_swap_pool_v260.go CommissionData), computed│ negative price with 119 first, as executor_v3.go:183 does  │
  │    │                                                    │ BEFORE the data is validated                              │ since /repo 19af872). Before that fix reachable in the     │
  │    │                                                    │                                                            │ real node under a price table with delta > base in a       │
  │    │                                                    │                                                            │ custom coin (F33);                                         │
  │    │                                                    │                                                            │ `C07_quote_panics_on_negative_amount` is the kernel fact   │
  │ B1 │ `pairSellMove` "PairSellWithOrders on a missing pool" │ state/swap/orderV2.go:21-22 `s.Pair()` nil → SellWithOrders │ unreachable: `payCommission_total`, `routeSellExec_noPanic`, `ffCapped_spec` │
  │ B2 │ `pairSellMove` INSUFFICIENT_INPUT_AMOUNT (2×)      │ orderV2.go:84, :88                                        │ unreachable (same theorems): commission ≥ 2 pips (`quote_round_trip`), capped fee has a positive net (`quoteBFS_pos`; /repo 7c6bd49, F13), route amounts > 0 │
  │ B3 │ `pairSellMove` .panic w / INSUFFICIENT_OUTPUT_AMOUNT (2×) │ orderV2.go:317, :100                               │ unreachable: the sale repeats the validated quote on the same reserves (`sim_eq_real`) │
  │ B4 │ `pairSellMove` "calculatedAmount1Out less minAmount1Out" │ orderV2.go:24 (every handler passes minOut = 0; SellAllCoin, sell_all_coin.go:187, passed the base-coin price until /repo 7d44913, F35, and the model's `runSellAllCoin` still does) │ unreachable: `quote_round_trip` — selling the quoted commission returns ≥ the price │
  │ B5 │ `pairBuyMove` missing pool / INSUFFICIENT_INPUT / .panic w / INSUFFICIENT_OUTPUT (2×) │ orderV2.go:45-46, :129, :492, :141 │ unreachable: `routeBuyExec_noPanic` (`pairBuyMove_ok`) │
  │ B6 │ `pairBuyMove` "calculatedAmount1Out less minAmount1Out" │ orderV2.go:47-48 (compares the amount BOUGHT with maxCoinSupply — a coding slip; buy_swap_pool_v260.go:224) │ unreachable for ValueToBuy ≤ 10^33 (hypothesis `hcap`; later hops are bounded by the validation). OPEN above 10^33: needs "reserve + payer balance ≤ max supply" (supply accounting); not reachable in practice (no pool can hold 10^33 pip) │
  │ B7 │ `pairBuyMove` "model: burn of a pool purchase differs from its 0.1 % surcharge" │ — (model self-check)              │ proved dead: `Lob.gross_net` (in `pairBuyMove_ok`) │
  │ B8 │ `payCommission` "model invariant: base-coin commission differs from its base value" │ — (model self-check)          │ proved dead: `payCommission_total`            │
  │ C1 │ TxStake `bipValue` "calculateBipValue: missing coin" │ state/candidates/candidates.go:990,1019 `coin.Volume` on nil │ unreachable: `bipValue_noPanic` (coin existence is checked first: delegate_v260.go, declare_candidacy.go) │
  │ C2 │ TxStake `bipValue` "calculateBipValue: division by zero" │ candidates.go:1024 `Div(…, totalDelegatedValue)`      │ unreachable: `bipValue_noPanic` (amount > 0 and no negative stake; cf. F8 fixed 9b85d50) │
  │ C3 │ TxStake `unbondMoves` "SubStake on a missing stake" / "… candidate" │ state/candidates/candidates.go:766 → model.go:288 nil.subValue │ unreachable: `unbondMoves_noPanic` (`unbondCheck` rejects a zero value without stake or waitlist entry, as the node does since /repo abd6676). Before that fix reachable in the real node (F32: Unbond/MoveStake with Value = 0) │
  │ D1 │ Tx `failFee` "missing commission pool"             │ executor_v3.go:278 CheckSwap on a nil swapper             │ unreachable: `ffCapped_spec` (fromPool ⇒ the pool exists) │
  │ D2 │ Tx `failFee` "missing gas coin"                    │ executor_v3.go:289 `gasCoin.ID()` on nil                  │ unreachable: `ffCapped_spec` (`prologueF_none`: the prologue checked the commission coin) │
  │ E1 │ TxPool `simRes` "GetSwapper on a missing pool"     │ e.g. add_liquidity_v260.go / sell_swap_pool_v260.go `GetSwapper(a,b)` nil │ unreachable: `simRes_noPanic` (pool existence is part of every basicCheck: `routeBasic_chain`) │
  │ E2 │ `simRes` .panic w / "AddLastSwapStepWithOrders with a nil amount" │ state/swap/orderV2.go:1310-1335 (`amount1OutCalc.Cmp` on nil; :317) │ unreachable: `simRes_noPanic` │
  │ E3 │ `runAddLiquidity` / `runRemoveLiquidity` "pool without its LP token" │ add_liquidity_v260.go:129, remove_liquidity_v240.go:101 `GetCoinBySymbol(LP-id).Volume()` on nil │ unreachable: `lpCoin_of_exists` (TxInv.lp) │
  │ E4 │ `runAddLiquidity` "division by zero" (r0 = 0)      │ state/swap/swapV2.go:835-838 CalculateAddLiquidity `Div(…, reserve0)` │ unreachable: `runAddLiquidity_good` (`sim_eq_real`: simulated reserves are positive) │
  │ E5 │ `runRemoveLiquidity` "division by zero" (supply 0) │ swapV2.go:1044 Amounts `Div(…, totalSupply)`              │ unreachable: `runRemoveLiquidity_good` (TxInv.lp: LP supply > 0) │
  │ E6 │ `addLiquidityExec` missing pool / division by zero / INSUFFICIENT_LIQUIDITY_MINTED │ swapV2.go:610-612, :837, :843 (PairMint, deliver only) │ unreachable: `runAddLiquidity_good` (`addLiquidityExec_eq`; validation = execution: /repo a9a396f, F29) │
  │ E7 │ `removeLiquidityExec` missing pool / INSUFFICIENT_LIQUIDITY_BURNED │ swapV2.go:642-644, :886 (PairBurn, deliver only)   │ unreachable: `runRemoveLiquidity_good` (`removeLiquidityExec_eq`; F29) │
  │ E8 │ (no model site) PairCreate                         │ swapV2.go:853 Create `liquidity ≤ 1000`, :685 identical coins │ excluded by the validation itself: `runCreatePool` rejects 704 / 301 on the same values, the deliver half is a fixed move │
  │ G  │ Tx `successOutcome` / `failureOutcome` / `deliverBody` "model: …" (8 guards, `modelGuards`) │ — none: consistency checks of the model (unauthorised debit, nonce touched, coin id, failure path answering OK / moving a non-fee) │ model self-checks, NOT Go panics; excluded from the statement. The driver would report any of them as FAULT on every run. │
  └────┴──────────────────────────────────────────────────┴──────────────────────────────────────────────────────────┴───────────────────────────────────────────────┘
-/
namespace Minter

/-- C07 for DeliverTx: on a state satisfying `TxInv` no transaction makes `deliverTx` stop at a Go panic site. Every fault it can raise is
    `need` (oracle), `unmodelled` (limit orders on the pool / unknown type) or one of the model's own `model: …` self-checks. -/
theorem C07_deliver_no_panic_all_types_pools_without_orders (P : Params) (o : Oracle) (s : State) (b : Nat) (t : TxIn)
    (hinv : TxInv P s) (hwf : TxWf t) (hcap : t.typ = 24 → t.int "d.ValueToBuy" ≤ P.maxSupply) :
    ∀ w, deliverTx P o s b t = .error (.panic w) → w ∈ modelGuards := by
  show GoPanicFree _
  unfold deliverTx
  split
  · exact GoPanicFree_pure _
  · rename_i hpro
    have hcoin := (prologueF_none P s b t 0 hpro).2.2.1
    unfold deliverBody
    split
    · exact GoPanicFree_sub (basePrice_noPanic hinv t) ‹_›
    · exact GoPanicFree_pure _
    · rename_i price hbp
      have hp := basePrice_nonneg s t price hbp
      have hg := runData_good hinv o b t hwf price hp hcap
      split
      · exact GoPanicFree_sub hg.1 ‹_›
      · exact GoPanicFree_guard (by simp [modelGuards]) (failureOutcome_free hinv o t _ hcoin)
      · rename_i rd hrd
        split
        · exact GoPanicFree_sub (execReady_noPanic hinv o price hp rd (hg.2 rd hrd)) ‹_›
        · exact successOutcome_free hinv t _

/-- C07 for CheckTx, which runs the prologue, the price conversion and the validation half only. -/
theorem C07_check_no_panic_all_types_pools_without_orders (P : Params) (o : Oracle) (s : State) (b : Nat) (t : TxIn) (fl : Nat) (inMempool : Bool)
    (hinv : TxInv P s) (hwf : TxWf t) (hcap : t.typ = 24 → t.int "d.ValueToBuy" ≤ P.maxSupply) :
    ∀ w, checkTx P o s b t fl inMempool = .error (.panic w) → w ∈ modelGuards := by
  show GoPanicFree _
  unfold checkTx
  split
  · exact GoPanicFree_pure _
  · split
    · exact GoPanicFree_sub (basePrice_noPanic hinv t) ‹_›
    · exact GoPanicFree_pure _
    · rename_i price hbp
      have hg := runData_good hinv o b t hwf price (basePrice_nonneg s t price hbp) hcap
      split
      · exact GoPanicFree_sub hg.1 ‹_›
      · exact GoPanicFree_guard (by simp [modelGuards]) (GoPanicFree_pure _)
      · split <;> exact GoPanicFree_pure _

/-- C07: a rejection by the prologue (size, decoding, chain id, commission coin, payload, signatures, multisig, nonce) is an answer of
    DeliverTx, never a fault. -/
theorem C07_prologue_total (P : Params) (o : Oracle) (s : State) (b : Nat) (t : TxIn) (c : Nat) (h : prologue P s b t = some c) :
    deliverTx P o s b t = .ok { code := c } := by
  unfold deliverTx
  rw [h]
  rfl

/-- C07: the commission of a validated transaction can always be paid: `execReady` gets past `PairSellWithOrders`. This is
    `payCommission_total` with its hypothesis `ComGood` discharged by `calcCommission_spec`; stated on its own because it concerns the
    deliver-only half, which CheckTx never exercises. -/
theorem C07_commission_payment_total (P : Params) (o : Oracle) (s : State) (hinv : TxInv P s) (payer : Addr) (gas : Coin) (price : Int)
    (hp : 0 ≤ price) (com : Com) (h : calcCommission P o s gas price = .ok (.ok com)) (minOut : Int) (hmin : minOut ≤ price) :
    ∃ paid, payCommission s payer gas com minOut = .ok paid :=
  payCommission_total hinv payer gas price com minOut ((calcCommission_spec hinv o gas price hp).2 com h) hmin

/-- C07: the failure-fee branch never faults (full fee or the fee capped at the payer's balance, through the reserve or the pool). -/
theorem C07_failure_fee_no_panic (P : Params) (o : Oracle) (s : State) (hinv : TxInv P s) (t : TxIn) (code : Nat)
    (hcoin : coinExists s t.comCoin = true) : ∀ w, failFee P o s t code ≠ .error (.panic w) :=
  failFee_noPanic hinv o t code hcoin

/-! ### Why amounts must be non-negative before they reach the pool kernels (F33)

  The hypothesis `0 ≤ a` of `C07_quote_no_panic` cannot be dropped: for a negative amount below minus the reserve the kernel's own swap
  check fails and the node panics (`orderV2.go:317`).  The price of a transaction is computed from its RAW data before the data is
  validated, so under a price table whose per-item delta exceeds the base price (nothing in VoteCommission forbids it) an empty
  Multisend / a one-coin route has a negative price, and with a table denominated in a custom coin that price would go through
  `CheckSwap` of the pool {table coin, BIP}.  `basePrice`, like the node since /repo 19af872, rejects it first. -/
theorem C07_quote_panics_on_negative_amount :
    quoteBuyForSell 1000 1000 (-5000) = .panic "checkSwap in calculateBuyForSellWithOrders" ∧
    ∃ w, checkSwapQuote 1000 1000 (-5000) 0 false = .error (.panic w) := ⟨by decide, _, by rfl⟩

/-! ### Non-vacuity -/

/-- A state with a bancor coin, a pool {BIP, COINA} with its LP token and a price table. -/
def c07State : State :=
  { balances := [((1, 0), 1000000000000000000000000), ((1, 7), 50000000000000000000000)],
    coins := [{ id := 7, symbol := "COINA", version := 0, volume := 1000000000000000000000000, reserve := 100000000000000000000000, crr := 50,
                maxSupply := 1000000000000000000000000000, owner := some 1, mintable := false, burnable := false },
              { id := 8, symbol := "LP-1", version := 0, volume := 31622776601683, reserve := 0, crr := 0,
                maxSupply := 1000000000000000000000000000000000, owner := none, mintable := true, burnable := true }],
    pools := [{ c0 := 0, c1 := 7, id := 1, r0 := 1000000000000000000000, r1 := 1000000000000000000000 }],
    commission := [("coin", 0), ("send", 10000000000000000), ("multisend_base", 10000000000000000), ("multisend_delta", 5000000000000000),
                   ("sell_pool_base", 100000000000000000), ("sell_pool_delta", 50000000000000000), ("failed_tx", 10000000000000000)],
    ncoins := 8 }

example : txInvB {} c07State = true := by decide
example : TxInv {} c07State := (txInv_iff {} c07State).mpr (by decide)

def c07Oracle : Oracle := fun q => match q with
  | .saleAmount _ _ _ want => some (want * 20)
  | .saleReturn _ _ _ sell => some (sell / 20)
  | _ => none

def c07Send : TxIn :=
  { dec := true, rawLen := 100, typ := 1, nonce := 1, chain := 2, gasPrice := 1, gasCoin := 7, sigOk := true, sender := 1,
    f := [("d.Coin", "0"), ("d.To", "02"), ("d.Value", "1000000000000000000")] }

-- a Send paying its commission in COINA through the pool is delivered with code 0 (`#guard`, not `decide`: `String.toInt?` does not
-- reduce in the kernel, so the decoded fields cannot be evaluated there)
#guard (match deliverTx {} c07Oracle c07State 10200001 c07Send with
  | .ok out => out.code == 0 && (applyChecked c07State out.plan).isSome
  | .error _ => false)
-- a failed transaction (unknown coin) pays the failure fee through the same pool
#guard (match deliverTx {} c07Oracle c07State 10200001 { c07Send with f := [("d.Coin", "99"), ("d.To", "02"), ("d.Value", "1")] } with
  | .ok out => out.code == 102 && out.moves.length == 1
  | .error _ => false)
#guard c07Send.f.all (fun e => decide (0 ≤ intD e.2))
-- the monitor is not trivially true: an unsorted pool, a negative price, a missing LP token are reported
#guard txInvBroken {} c07State == []
#guard txInvBroken {} { c07State with pools := [{ c0 := 7, c1 := 0, id := 1, r0 := 5, r1 := 5 }] } == ["pools-sorted-capped"]
#guard txInvBroken {} { c07State with commission := [("send", -1)], coins := [] } == ["price-table", "lp-token"]

end Minter
