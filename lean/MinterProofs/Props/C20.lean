import MinterModel.Rules
import MinterProofs.Ledger
import Mathlib.Tactic.Linarith
import Mathlib.Data.List.Nodup
import Mathlib.Data.List.Pairwise
/-
  C20: a commission-price change, a version update or a halt takes effect at the voted height iff the validators that voted for
  the same proposal hold strictly more than 2/3 of the power present in that block; the largest support wins; votes for past
  heights and duplicate votes are rejected.
  The code picks the proposal with the largest support and tests that one.  That this is "iff some proposal has more than 2/3"
  rests on `VotesWF`: different proposals have disjoint, duplicate-free voters, so two of them together hold at most the total
  power, at most one is above 2/3, and that one has the largest support.
  `Rules.passesCode`, `calcPowers`, `tallyHalt`, `tallyVersion`, `tallyCommission`, `voteCheck` (MinterModel/Rules.lean) are what the
  harness mode `rules` evaluates next to the real `isMoreThanTwoThirds`, `calculatePowers`, `isApplicationHalted`,
  `isUpdateCommissionsBlockV2`, `isUpdateNetworkBlockV2` and the real vote transactions.
-/
namespace Minter
namespace Rules

theorem cmpInt_eq_one (a b : Int) : cmpInt a b = 1 ↔ b < a := by
  unfold cmpInt
  omega

theorem passesCode_iff (voted total : Int) : passesCode voted total = true ↔ 3 * voted > 2 * total := by
  rw [passesCode, beq_iff_eq, cmpInt_eq_one, Int.mul_comm, Int.mul_comm voted]

/-- `passes` is the predicate the node monitors use (MinterModel/Monitors.lean). -/
theorem passesCode_eq_passes (voted total : Int) : passesCode voted total = passes voted total := by
  rw [passes, Bool.eq_iff_iff, passesCode_iff, decide_eq_true_iff]

example : passesCode 2 3 = false ∧ passesCode 3 4 = true ∧ passesCode 200000000000000000001 300000000000000000000 = true := by decide +kernel

/-! ### Sums over voters -/

theorem votedPower_nil (ps : Powers) : votedPower ps [] = 0 := rfl

theorem votedPower_cons (ps : Powers) (k : PubKey) (l : List PubKey) :
    votedPower ps (k :: l) = (ps.lookup k).getD 0 + votedPower ps l := rfl

theorem votedPower_append (ps : Powers) (l1 l2 : List PubKey) :
    votedPower ps (l1 ++ l2) = votedPower ps l1 + votedPower ps l2 := sumBy_append ..

theorem lookup_nonneg (ps : Powers) (hp : ∀ x ∈ ps, 0 ≤ x.2) (k : PubKey) : 0 ≤ (ps.lookup k).getD 0 := by
  cases h : ps.lookup k with
  | none => exact Int.le_refl 0
  | some v =>
    obtain ⟨l1, l2, rfl, _⟩ := List.lookup_eq_some_iff.mp h
    exact hp (k, v) (List.mem_append_right _ List.mem_cons_self)

theorem votedPower_nonneg (ps : Powers) (hp : ∀ x ∈ ps, 0 ≤ x.2) (l : List PubKey) : 0 ≤ votedPower ps l :=
  sumBy_nonneg _ _ fun a _ => lookup_nonneg ps hp a

/-- A table entry whose key did not vote adds nothing. -/
theorem votedPower_table_cons (k0 : PubKey) (w0 : Int) (rest : Powers) (l : List PubKey) (h : k0 ∉ l) :
    votedPower ((k0, w0) :: rest) l = votedPower rest l :=
  sumBy_congr_mem _ _ l fun k hk => by rw [List.lookup_cons, beq_false_of_ne (ne_of_mem_of_not_mem hk h)]

theorem votedPower_le_sum (ps : Powers) (hp : ∀ x ∈ ps, 0 ≤ x.2) (l : List PubKey) (hl : l.Nodup) :
    votedPower ps l ≤ sumPowers ps := by
  induction ps generalizing l with
  | nil => exact Int.le_of_eq (sumBy_eq_zero fun _ _ => rfl)
  | cons e rest ih =>
    obtain ⟨k0, w0⟩ := e
    have hw : 0 ≤ w0 := hp (k0, w0) List.mem_cons_self
    have ih := ih fun x hx => hp x (List.mem_cons_of_mem _ hx)
    change _ ≤ w0 + sumPowers rest
    by_cases hk : k0 ∈ l
    · -- a voter is listed once: take `k0` out of `l`, it brings `w0`
      rw [votedPower, sumBy_perm _ (List.perm_cons_erase hk), ← votedPower, votedPower_cons, List.lookup_cons_self,
        votedPower_table_cons k0 w0 rest _ hl.not_mem_erase]
      exact Int.add_le_add_left (ih _ (hl.erase k0)) w0
    · rw [votedPower_table_cons k0 w0 rest l hk]
      exact Int.le_trans (ih l hl) (Int.le_add_of_nonneg_left hw)

theorem sumPowers_nonneg (ps : Powers) (hp : ∀ x ∈ ps, 0 ≤ x.2) : 0 ≤ sumPowers ps :=
  sumBy_nonneg _ _ hp

theorem calcPowers_spec (vals : List ValInfo) (hs : ∀ v ∈ vals, 0 ≤ v.stake) :
    (∀ x ∈ (calcPowers vals).1, ∃ v ∈ vals, v.toDrop = false ∧ v.present = true ∧ x = (v.pubkey, v.stake)) ∧
    (∀ x ∈ (calcPowers vals).1, 0 ≤ x.2) ∧
    0 < (calcPowers vals).2 ∧ sumPowers (calcPowers vals).1 ≤ (calcPowers vals).2 := by
  have hmem : ∀ x ∈ (calcPowers vals).1, ∃ v ∈ vals, v.toDrop = false ∧ v.present = true ∧ x = (v.pubkey, v.stake) := by
    intro x hx
    simp only [calcPowers, List.mem_map, List.mem_filter, Bool.and_eq_true, Bool.not_eq_true'] at hx
    obtain ⟨v, ⟨hv, hd, hpr⟩, rfl⟩ := hx
    exact ⟨v, hv, hd, hpr, rfl⟩
  have hnn : ∀ x ∈ (calcPowers vals).1, 0 ≤ x.2 := by
    intro x hx
    obtain ⟨v, hv, _, _, rfl⟩ := hmem x hx
    exact hs v hv
  have := sumPowers_nonneg _ hnn
  refine ⟨hmem, hnn, ?_, ?_⟩ <;> simp only [calcPowers] at this ⊢ <;> split <;> omega

example : calcPowers [⟨1, 5, false, true⟩, ⟨2, 7, true, true⟩, ⟨3, 9, false, false⟩, ⟨4, 1, false, true⟩] = ([(1, 5), (4, 1)], 6) := by decide +kernel
example : calcPowers [⟨2, 7, true, true⟩] = ([], 1) := by decide +kernel

/-! ### The winner of a tally -/

theorem tallyStep_lt (ps : Powers) (acc : Int × String) (p : Proposal) (h : acc.1 < votedPower ps p.2) :
    tallyStep ps acc p = (votedPower ps p.2, p.1) := if_pos h

theorem tallyStep_ge (ps : Powers) (acc : Int × String) (p : Proposal) (h : votedPower ps p.2 ≤ acc.1) :
    tallyStep ps acc p = acc := if_neg (Int.not_lt.mpr h)

/-- The tally loop: the running maximum never falls, ends at least as high as every proposal's power, and is the start value or
    the power and name of a proposal of the list. -/
theorem foldl_tally_inv (ps : Powers) (l : List Proposal) (acc : Int × String) :
    acc.1 ≤ (l.foldl (tallyStep ps) acc).1 ∧
    (∀ q ∈ l, votedPower ps q.2 ≤ (l.foldl (tallyStep ps) acc).1) ∧
    (l.foldl (tallyStep ps) acc = acc ∨ ∃ p ∈ l, l.foldl (tallyStep ps) acc = (votedPower ps p.2, p.1)) := by
  induction l generalizing acc with
  | nil => exact ⟨Int.le_refl _, fun _ h => (nomatch h), .inl rfl⟩
  | cons a t ih =>
    rw [List.foldl_cons, List.forall_mem_cons]
    obtain ⟨h1, h2, h3⟩ := ih (tallyStep ps acc a)
    have hex : ∀ {r}, (∃ p ∈ t, r = (votedPower ps p.2, p.1)) → ∃ p ∈ a :: t, r = (votedPower ps p.2, p.1) :=
      fun ⟨p, hp, hr⟩ => ⟨p, List.mem_cons_of_mem _ hp, hr⟩
    rcases Int.lt_or_le acc.1 (votedPower ps a.2) with hlt | hge
    · rw [tallyStep_lt ps acc a hlt] at h1 h2 h3 ⊢
      exact ⟨Int.le_trans (Int.le_of_lt hlt) h1, ⟨h1, h2⟩,
        .inr (h3.elim (fun h => ⟨a, List.mem_cons_self, h⟩) hex)⟩
    · rw [tallyStep_ge ps acc a hge] at h1 h2 h3 ⊢
      exact ⟨h1, ⟨Int.le_trans hge h1, h2⟩, h3.imp_right hex⟩

/-- The "largest support wins" of C20.  `(0, "")`: no proposal has positive support. -/
theorem tally_largest_wins (ps : Powers) (props : List Proposal) :
    (∀ q ∈ props, votedPower ps q.2 ≤ (tallyWinner ps props).1) ∧
    (tallyWinner ps props = (0, "") ∨ ∃ p ∈ props, tallyWinner ps props = (votedPower ps p.2, p.1)) :=
  (foldl_tally_inv ps props (0, "")).2

/-! ### Decision ⇔ a proposal with more than two thirds -/

/-- Well-formedness of the stored proposals for one height (what the vote transactions guarantee): different proposals have
    different texts and disjoint voters (one vote per candidate and height), no voter is listed twice. -/
structure VotesWF (props : List Proposal) : Prop where
  pairwise : props.Pairwise (fun p q => p.1 ≠ q.1 ∧ ∀ k, k ∈ p.2 → k ∉ q.2)
  nodup : ∀ p ∈ props, p.2.Nodup

theorem two_proposals_le_total (ps : Powers) (total : Int) (props : List Proposal) (hwf : VotesWF props)
    (hp : ∀ x ∈ ps, 0 ≤ x.2) (htot : sumPowers ps ≤ total)
    (p q : Proposal) (hpm : p ∈ props) (hqm : q ∈ props) (hne : p ≠ q) :
    votedPower ps p.2 + votedPower ps q.2 ≤ total := by
  have hsym : Std.Symm (fun p q : Proposal => p.1 ≠ q.1 ∧ ∀ k, k ∈ p.2 → k ∉ q.2) :=
    ⟨fun a b ⟨h1, h2⟩ => ⟨fun h => h1 h.symm, fun k hk hk' => h2 k hk' hk⟩⟩
  have hdis := (hwf.pairwise.forall hpm hqm hne).2
  have hnd : (p.2 ++ q.2).Nodup :=
    List.nodup_append.mpr ⟨hwf.nodup p hpm, hwf.nodup q hqm, fun a ha b hb hab => hdis a ha (hab ▸ hb)⟩
  rw [← votedPower_append]
  exact Int.le_trans (votedPower_le_sum ps hp _ hnd) htot

theorem at_most_one_passes (ps : Powers) (total : Int) (props : List Proposal) (hwf : VotesWF props)
    (hp : ∀ x ∈ ps, 0 ≤ x.2) (htot : sumPowers ps ≤ total)
    (p q : Proposal) (hpm : p ∈ props) (hqm : q ∈ props)
    (h1 : 3 * votedPower ps p.2 > 2 * total) (h2 : 3 * votedPower ps q.2 > 2 * total) : p = q := by
  by_contra hne
  have := two_proposals_le_total ps total props hwf hp htot p q hpm hqm hne
  have hpn := votedPower_nonneg ps hp p.2
  have hqn := votedPower_nonneg ps hp q.2
  omega

theorem tallyVersion_eq_some (ps : Powers) (total : Int) (props : List Proposal) (name : String) :
    tallyVersion ps total props = some name ↔
      props ≠ [] ∧ 3 * (tallyWinner ps props).1 > 2 * total ∧ (tallyWinner ps props).2 = name := by
  unfold tallyVersion
  cases props with
  | nil => simp
  | cons a t => simp [passesCode_iff]

/-- C20 for version votes.  `hp` and `htot` are what `calcPowers_spec` gives for the table of `calculatePowers`, `hwf` is what
    the vote transactions guarantee. -/
theorem effective_iff (ps : Powers) (total : Int) (props : List Proposal) (hwf : VotesWF props)
    (hp : ∀ x ∈ ps, 0 ≤ x.2) (htot : sumPowers ps ≤ total) (name : String) :
    tallyVersion ps total props = some name ↔
      ∃ p ∈ props, p.1 = name ∧ 3 * votedPower ps p.2 > 2 * total := by
  have htot0 : 0 ≤ total := Int.le_trans (sumPowers_nonneg ps hp) htot
  obtain ⟨hle, hwin⟩ := tally_largest_wins ps props
  rw [tallyVersion_eq_some]
  constructor
  · rintro ⟨-, hgt, hname⟩
    rcases hwin with h0 | ⟨p, hpm, hw⟩
    · rw [h0] at hgt; omega
    · rw [hw] at hgt hname; exact ⟨p, hpm, hname, hgt⟩
  · rintro ⟨p, hpm, rfl, hgt⟩
    have hge := hle p hpm
    rcases hwin with h0 | ⟨q, hqm, hw⟩
    · rw [h0] at hge; omega
    · -- the winner has at least the support of `p`, so it passes as well and is `p`
      rw [hw] at hge ⊢
      cases at_most_one_passes ps total props hwf hp htot q p hqm hpm (by omega) hgt
      exact ⟨List.ne_nil_of_mem hpm, hgt, rfl⟩

/-- C20 for commission votes.  `hname`: an encoded price table is never empty. -/
theorem effective_iff_commission (ps : Powers) (total : Int) (props : List Proposal) (hwf : VotesWF props)
    (hp : ∀ x ∈ ps, 0 ≤ x.2) (htot : sumPowers ps ≤ total) (name : String) (hname : name.isEmpty = false) :
    tallyCommission ps total props = some name ↔
      ∃ p ∈ props, p.1 = name ∧ 3 * votedPower ps p.2 > 2 * total := by
  rw [← effective_iff ps total props hwf hp htot name]
  unfold tallyCommission
  cases tallyVersion ps total props with
  | none => exact Iff.rfl
  | some p =>
    change (if p.isEmpty then none else some p) = some name ↔ _
    constructor
    · intro h
      split at h
      · cases h
      · exact h
    · rintro ⟨⟩
      exact if_neg (ne_true_of_eq_false hname)

theorem halt_iff (ps : Powers) (total : Int) (votes : List PubKey) :
    tallyHalt ps total votes = true ↔ 3 * votedPower ps votes > 2 * total :=
  passesCode_iff _ _

theorem tallyVersion_none_iff (ps : Powers) (total : Int) (props : List Proposal) (hwf : VotesWF props)
    (hp : ∀ x ∈ ps, 0 ≤ x.2) (htot : sumPowers ps ≤ total) :
    tallyVersion ps total props = none ↔ ∀ p ∈ props, 3 * votedPower ps p.2 ≤ 2 * total := by
  rw [Option.eq_none_iff_forall_ne_some]
  simp only [ne_eq, effective_iff ps total props hwf hp htot, not_exists, not_and, Int.not_lt]
  exact ⟨fun h p hpm => h p.1 p hpm rfl, fun h _ p hpm _ => h p hpm⟩

-- non-vacuity: three validators with powers 5, 3, 2 (total 10); proposal "a" has 5+2 = 7 > 20/3, proposal "b" has 3.
example : tallyVersion [(1, 5), (2, 3), (3, 2)] 10 [("b", [2]), ("a", [1, 3])] = some "a" := by decide +kernel
example : tallyVersion [(1, 5), (2, 3), (3, 2)] 10 [("b", [2, 3]), ("a", [1])] = none := by decide +kernel
-- exactly two thirds does not pass
example : tallyVersion [(1, 2), (2, 2), (3, 2)] 6 [("a", [1, 2])] = none := by decide +kernel
example : tallyHalt [(1, 2), (2, 2), (3, 2)] 6 [1, 2] = false ∧ tallyHalt [(1, 2), (2, 2), (3, 3)] 7 [1, 3] = true := by decide +kernel
example : VotesWF [("b", [2]), ("a", [1, 3])] := ⟨by decide +kernel, by decide +kernel⟩

/-! ### Vote validity -/

theorem voteExists_iff (stored : List (Height × PubKey)) (h : Height) (k : PubKey) :
    voteExists stored h k = true ↔ (h, k) ∈ stored := by
  simp [voteExists]

theorem voteCheck_eq_none_iff (typ voteHeight block : Nat) (ex : Bool) :
    voteCheck typ voteHeight block ex = none ↔ block ≤ voteHeight ∧ ex = false := by
  cases ex <;> simp [voteCheck, ite_eq_iff]

theorem vote_past_rejected (typ voteHeight block : Nat) (ex : Bool) (h : voteHeight < block) :
    voteCheck typ voteHeight block ex = some codeVoteExpired := if_pos h

theorem vote_accepted_iff (typ voteHeight block : Nat) (stored : List (Height × PubKey)) (k : PubKey) :
    voteCheck typ voteHeight block (voteExists stored voteHeight k) = none ↔
      block ≤ voteHeight ∧ (voteHeight, k) ∉ stored := by
  rw [voteCheck_eq_none_iff, ← voteExists_iff, Bool.not_eq_true]

theorem vote_duplicate_rejected (typ voteHeight block : Nat) (stored : List (Height × PubKey)) (k : PubKey)
    (hdup : (voteHeight, k) ∈ stored) :
    voteCheck typ voteHeight block (voteExists stored voteHeight k) ≠ none :=
  fun h => ((vote_accepted_iff ..).mp h).2 hdup

/-- Where `VotesWF` comes from: one stored vote per candidate and height. -/
theorem vote_store_nodup (stored : List (Height × PubKey)) (hnd : stored.Nodup) (typ voteHeight block : Nat) (k : PubKey)
    (hacc : voteCheck typ voteHeight block (voteExists stored voteHeight k) = none) :
    ((voteHeight, k) :: stored).Nodup :=
  List.nodup_cons.mpr ⟨((vote_accepted_iff typ voteHeight block stored k).mp hacc).2, hnd⟩

example : voteCheck 15 9 10 false = some 120 ∧ voteCheck 15 10 10 true = some 118 ∧ voteCheck 33 10 10 true = some 121 ∧
    voteCheck 32 10 10 false = none := by decide +kernel

end Rules
end Minter
