import MinterModel.Tx
import MinterProofs.Moves
/-
  C01 (coin supply is conserved; the base coin grows only by the block emission), transaction level: the plan of an outcome
  is `planOf` of its moves, every move is balanced (Moves.lean) and none records emission, so `balanced_preserves` applies
  to whatever DeliverTx answered. Block level: Props/C01Block.lean.
-/
namespace Minter

theorem move_no_emission (m : Move) : sumEmission m.prims = 0 := by
  cases m with
  | admin p =>
    simp only [Move.prims]; split
    · next h => exact (Int.add_zero _).trans (admin_effects p h 0).2.2.2
    · rfl
  | poolSell payer c0 c1 sellsC0 net out burn toRewards dest =>
    cases sellsC0 <;> cases toRewards <;> simp only [Move.prims, Bool.false_eq_true, if_false, if_true]
    all_goals first | rfl | (split <;> rfl)
  | mint | feeBancor | createCoin | poolCreate | poolMint | poolBurn => simp only [Move.prims]; split <;> rfl
  | bancor => simp only [Move.prims]; split <;> split <;> rfl
  | delegate a cand coin value wl => cases wl <;> rfl
  | unbond a stakeCand coin value wl f =>
    cases wl with
    | none => rfl
    | some w =>
      simp only [Move.prims]; split
      · rfl
      · split <;> rfl
  | _ => rfl

theorem planOf_no_emission (ms : List Move) : sumEmission (planOf ms) = 0 := by
  induction ms with
  | nil => rfl
  | cons m t ih =>
    rw [planOf, List.flatMap_cons, sumEmission, sumBy_append]
    exact congr (congrArg _ (move_no_emission m)) ih

/-- Whatever DeliverTx answers (success, rejection with or without the failure fee) and whatever the oracle (the
    bonding-curve functions) returns. `_h` is not used: `out.plan` is `planOf out.moves` for any outcome. -/
theorem C01_deliver_conserves (P : Params) (o : Oracle) (s s' : State) (block : Nat) (t : TxIn) (out : Outcome)
    (_h : deliverTx P o s block t = .ok out)
    (ha : applyChecked s out.plan = some s') (hc : Conserved s) :
    Conserved s' ∧ baseTotalP s' = baseTotalP s ∧ s'.emission = s.emission := by
  have hb := planOf_balanced out.moves
  have := balanced_preserves s s' out.plan hb ha hc
  have he := checked_emission s s' out.plan ha
  have h0 := planOf_no_emission out.moves
  simp only [Outcome.plan] at *
  refine ⟨this.1, ?_, ?_⟩ <;> omega

def deliverAll (P : Params) (o : Oracle) (block : Nat) : State → List TxIn → Option State
  | s, [] => some s
  | s, t :: ts =>
    match deliverTx P o s block t with
    | .ok out => match applyChecked s out.plan with
      | some s' => deliverAll P o block s' ts
      | none => none
    | .error _ => none

theorem C01_block_body_conserves (P : Params) (o : Oracle) (block : Nat) (txs : List TxIn) (s s' : State)
    (h : deliverAll P o block s txs = some s') (hc : Conserved s) :
    Conserved s' ∧ baseTotalP s' = baseTotalP s ∧ s'.emission = s.emission := by
  induction txs generalizing s with
  | nil => simp [deliverAll] at h; subst h; exact ⟨hc, rfl, rfl⟩
  | cons t ts ih =>
    simp only [deliverAll] at h
    split at h
    · next out hd =>
      split at h
      · next s1 ha =>
        have h1 := C01_deliver_conserves P o s s1 block t out hd ha hc
        have h2 := ih s1 h h1.1
        exact ⟨h2.1, by omega, by omega⟩
      · cases h
    · cases h

/-! Non-vacuity: a concrete state and a Send transaction that is accepted and whose plan applies. -/
def exState : State :=
  { balances := [((1, 0), 1000000000000000000000), ((1, 7), 500)],
    coins := [{ id := 7, symbol := "TOK", version := 0, volume := 500, reserve := 0, crr := 0, maxSupply := 1000, owner := some 1, mintable := true, burnable := true }],
    commission := [("send", 10000000000000000), ("payload_byte", 2000000000000000), ("failed_tx", 10000000000000000)] }

def exTx : TxIn :=
  { dec := true, rawLen := 100, typ := 1, nonce := 1, chain := 2, gasPrice := 1, gasCoin := 0, sigType := 1, sigOk := true, sender := 1,
    f := [("d.Coin", "7"), ("d.To", "02"), ("d.Value", "200")] }

example : Conserved exState := by
  intro c hc
  by_cases h : c = 7
  · subst h; decide
  · simp [exState, volumeOf, holdings, sumBy, Bag.sumIf]; omega

-- Evaluated by the Lean interpreter (strings do not reduce in the kernel): the hypotheses of the theorem are met
-- by `exState`/`exTx`: the transaction is accepted, its plan applies, and 200 TOK arrive at address 2.
#guard (match deliverTx {} (fun _ => none) exState 10200001 exTx with
    | .ok out => out.code == 0 && (applyChecked exState out.plan).isSome && balanceOf ((applyChecked exState out.plan).getD exState) 2 7 == 200
    | .error _ => false)

end Minter
