import MinterModel.Tx
import MinterProofs.Props.C04
/-
  C06 (CheckTx accepts exactly the transactions DeliverTx accepts).

  `checkTx` (MinterModel/Tx.lean) is the model of `RunTx` on a `CheckState`: the same prologue plus the gas-price floor, the same
  price conversion, the same validation half of the handler (`runData`), then the one-transaction-per-sender rule; it has no
  access to a mutable state at all (its type returns a response code only), so "CheckTx changes nothing" holds by construction.
  `deliverTx` runs the same validation and then the deliver-only half (`execReady`, `successOutcome`).

  So the two agree whenever DeliverTx answers at all; what the theorems leave open is a fault of the deliver-only half.

  Deliver-only fault sites of the model (each is a `Stop.panic` raised after the validation passed; the Go code panics or
  misbehaves at the same place; the correspondence check compares CheckTx and DeliverTx codes of every generated transaction):
  * `pairSellMove` / `pairBuyMove`: INSUFFICIENT_INPUT_AMOUNT, INSUFFICIENT_OUTPUT_AMOUNT, "calculatedAmount1Out less minAmount1Out",
    checkSwap (K) failures inside the pool kernels, a missing pool;
  * `payCommission`: base-coin commission differs from its base value (model invariant);
  * `unbondMoves`: `SubStake` on a missing stake / candidate;
  * AddLiquidity / RemoveLiquidity `exec` (`addLiquidityExec`, `removeLiquidityExec`): division by zero, INSUFFICIENT_LIQUIDITY_MINTED,
    INSUFFICIENT_LIQUIDITY_BURNED — all DEAD for states with sorted, positive pools: the validation simulates the commission swap
    exactly (/repo a9a396f; `sim_eq_real`), so the execution repeats the validated computation (`remove_liquidity_exec_ok`,
    `addLiquidityExec_eq`, `C15_remove_liquidity`, `C15_add_liquidity` in Props/C15.lean);
  * `tickerBurn`: none of its own (/repo f0b1597: a non-positive or unconvertible ticker fee only skips the burn); a fault of
    `toBase` passes through it;
  * the guards of `successOutcome` (unauthorised debit, nonce touched, new coin without the next id): never fire for the handlers
    as written (evaluated on every run).
-/
namespace Minter

theorem prologueF_floor (P : Params) (s : State) (b : Nat) (t : TxIn) (fl : Nat) (h : fl ≤ t.gasPrice) :
    prologueF P s b t fl = prologue P s b t := by
  unfold prologue prologueF
  rw [if_neg (Nat.not_lt.mpr h), if_neg (Nat.not_lt_zero _)]

theorem execReady_code (s : State) (rd : Ready) (r : Outcome) (h : execReady s rd = .ok r) : r.code = 0 := by
  obtain ⟨-, -, -, -, -, hc, -⟩ := execReady_ok s rd r h
  exact hc

theorem check_deliver_cases (P : Params) (o : Oracle) (s : State) (b : Nat) (t : TxIn) (fl : Nat) (hfl : fl ≤ t.gasPrice) :
    -- rejected by the shared prologue / price conversion / handler with the same non-zero code on the CheckTx side
    (∃ c, c ≠ 0 ∧ checkTx P o s b t fl false = .ok c ∧ ∀ out, deliverTx P o s b t = .ok out → out.code ≠ 0) ∨
    -- validated: CheckTx answers 0, DeliverTx answers 0 or faults
    (checkTx P o s b t fl false = .ok 0 ∧ ∀ out, deliverTx P o s b t = .ok out → out.code = 0) ∨
    -- the validation itself faults on both sides
    ((∃ e, checkTx P o s b t fl false = .error e) ∧ ∃ e, deliverTx P o s b t = .error e) := by
  unfold checkTx deliverTx
  rw [prologueF_floor P s b t fl hfl]
  cases hp : prologue P s b t with
  | some c =>
    have hc : c ≠ 0 := fun h0 => prologue_ne_zero P s b t (h0 ▸ hp)
    exact .inl ⟨c, hc, rfl, fun out ho => by cases ho; exact hc⟩
  | none =>
  delta deliverBody
  cases hb : basePrice s t with
  | error e => exact .inr (.inr ⟨⟨e, rfl⟩, ⟨e, rfl⟩⟩)
  | ok pr =>
  cases pr with
  | error c =>
    have hc := basePrice_code_ne_zero s t c hb
    exact .inl ⟨c, hc, rfl, fun out ho => by cases ho; exact hc⟩
  | ok price =>
  simp only
  cases hr : runData P o s b t price with
  | error e => exact .inr (.inr ⟨⟨e, rfl⟩, ⟨e, rfl⟩⟩)
  | ok v =>
  cases v with
  | error c =>
    simp only [beq_iff_eq]
    split
    · exact .inr (.inr ⟨⟨_, rfl⟩, ⟨_, rfl⟩⟩)
    · next hc0 => exact .inl ⟨c, hc0, rfl, fun out ho => (failureOutcome_ok P o s t c out ho).1⟩
  | ok rd =>
    refine .inr (.inl ⟨rfl, fun out ho => ?_⟩)
    simp only at ho
    split at ho
    · cases ho
    · obtain ⟨-, -, -, h0, -⟩ := successOutcome_ok s t _ out ho
      exact h0

/-- `hfl`, and `false` for "sender already in the mempool": the two rules of the property that exist in CheckTx only. -/
theorem C06_check_iff_deliver (P : Params) (o : Oracle) (s : State) (b : Nat) (t : TxIn) (fl : Nat) (ck : Nat) (out : Outcome)
    (hfl : fl ≤ t.gasPrice) (hc : checkTx P o s b t fl false = .ok ck) (hd : deliverTx P o s b t = .ok out) :
    ck = 0 ↔ out.code = 0 := by
  rcases check_deliver_cases P o s b t fl hfl with ⟨c, hc0, hck, hdl⟩ | ⟨hck, hdl⟩ | ⟨⟨e, hck⟩, _⟩
  · rw [hck] at hc; cases hc
    exact ⟨fun h => absurd h hc0, fun h => absurd h (hdl out hd)⟩
  · rw [hck] at hc; cases hc
    exact ⟨fun _ => hdl out hd, fun _ => rfl⟩
  · rw [hck] at hc; cases hc

theorem C06_check_ok_deliver (P : Params) (o : Oracle) (s : State) (b : Nat) (t : TxIn) (fl : Nat)
    (hfl : fl ≤ t.gasPrice) (hc : checkTx P o s b t fl false = .ok 0) :
    (∃ out, deliverTx P o s b t = .ok out ∧ out.code = 0) ∨ (∃ e, deliverTx P o s b t = .error e) := by
  cases hd : deliverTx P o s b t with
  | error e => exact Or.inr ⟨e, rfl⟩
  | ok out => exact Or.inl ⟨out, rfl, (C06_check_iff_deliver P o s b t fl 0 out hfl hc hd).mp rfl⟩

theorem C06_deliver_ok_check (P : Params) (o : Oracle) (s : State) (b : Nat) (t : TxIn) (fl : Nat) (out : Outcome)
    (hfl : fl ≤ t.gasPrice) (hd : deliverTx P o s b t = .ok out) (h0 : out.code = 0) :
    checkTx P o s b t fl false = .ok 0 := by
  rcases check_deliver_cases P o s b t fl hfl with ⟨c, _, _, hdl⟩ | ⟨hck, _⟩ | ⟨_, ⟨e, hde⟩⟩
  · exact absurd h0 (hdl out hd)
  · exact hck
  · rw [hde] at hd; cases hd

/-! Non-vacuity: the accepted LockStake of C26 passes CheckTx with floor 1. -/
def c06State : State :=
  { balances := [((1, 0), 1000000000000000000000)], commission := [("lock_stake", 10000000000000000), ("failed_tx", 10000000000000000)] }
def c06Tx : TxIn := { dec := true, rawLen := 100, typ := 37, nonce := 1, chain := 2, gasPrice := 1, sigOk := true, sender := 1 }

set_option maxRecDepth 8000 in
example : (match checkTx {} (fun _ => none) c06State 10200001 c06Tx 1 false, deliverTx {} (fun _ => none) c06State 10200001 c06Tx with
    | .ok ck, .ok out => ck == 0 && out.code == 0
    | _, _ => false) = true := by decide +kernel

end Minter
