import MinterModel.Kernels
import Mathlib.Tactic.Linarith
import Mathlib.Tactic.Ring
/-
  C13 — swap pools never lose value to traders (kernel level: the integer formulas of `PairV2`).  Each quote is a floor
  quotient moved by one unit in the pool's favour (`- 1` on the output of `buyForSell`, `+ 1` on the input of `sellForBuy`);
  that unit is what carries the K inequality across the rounding.
-/
namespace Minter

/-- The K check with the 0.2 % fee on the input implies the plain one; `b` is the new reserve of the output coin. -/
theorem plainK_of_feeK {r0 r1 a b : Int} (ha : 0 ≤ a) (hb : 0 ≤ b)
    (h : r0 * r1 * 1000000 ≤ ((a + r0) * 1000 - a * 2) * (b * 1000)) : r0 * r1 ≤ (r0 + a) * b := by
  linarith [mul_nonneg ha hb]

theorem plainK_lt_of_feeK {r0 r1 a b : Int} (ha : 0 < a) (hb : 0 < b)
    (h : r0 * r1 * 1000000 ≤ ((a + r0) * 1000 - a * 2) * (b * 1000)) : r0 * r1 < (r0 + a) * b := by
  linarith [mul_pos ha hb]

/-- `buyForSell` with the floor quotient Lean's `/` is (the numerator is not negative). -/
theorem buyForSell_some {r0 r1 a d : Int} (h0 : 0 ≤ r0) (h1 : 0 ≤ r1) :
    buyForSell r0 r1 a = some d ↔ 0 < d ∧ d = r1 - r0 * r1 * 1000000 / (((a + r0) * 1000 - a * 2) * 1000) - 1 := by
  unfold buyForSell
  simp only
  rw [Int.tdiv_eq_ediv_of_nonneg (by positivity)]
  split
  · exact ⟨fun h => (nomatch h), fun ⟨hd, he⟩ => by omega⟩
  · exact ⟨fun h => Option.some.inj h ▸ ⟨by omega, rfl⟩, fun ⟨_, he⟩ => by rw [he]⟩

/-- `sellForBuy` as floor quotients: `k = 10⁶·r0·w + 1000·r0·b` with `b = (r1 - w)·1000`, so `⌊k / b⌋ - 1000·r0 = ⌊10⁶·r0·w / b⌋`. -/
theorem sellForBuy_some {r0 r1 w x : Int} (h0 : 0 ≤ r0) (hw : 0 ≤ w) (h : sellForBuy r0 r1 w = some x) :
    w < r1 ∧ x = r0 * w * 1000000 / ((r1 - w) * 1000) / 998 + 1 := by
  unfold sellForBuy at h
  split at h
  · cases h
  next hlt =>
  simp only at h
  cases h
  have : 0 ≤ r1 := by omega
  have hb : 0 < (r1 - w) * 1000 := by omega
  have e : r0 * r1 * 1000000 = r0 * w * 1000000 + r0 * 1000 * ((r1 - w) * 1000) := by ring
  rw [Int.tdiv_eq_ediv_of_nonneg (show 0 ≤ r0 * r1 * 1000000 by positivity), e, Int.add_mul_ediv_right _ _ hb.ne', Int.add_sub_cancel,
    Int.tdiv_eq_ediv_of_nonneg (Int.ediv_nonneg (by positivity) hb.le)]
  exact ⟨by omega, rfl⟩

/-- C13, sell side.  The third conjunct is the inequality `checkSwap` tests (K with the 0.2 % fee on the input), the fourth
    the plain product of the reserves. -/
theorem buyForSell_K (r0 r1 a out : Int) (h0 : 0 < r0) (h1 : 0 < r1) (ha : 0 < a)
    (h : buyForSell r0 r1 a = some out) :
    0 < out ∧ out < r1 ∧
    ((a + r0) * 1000 - a * 2) * ((r1 - out) * 1000) ≥ r0 * r1 * 1000000 ∧
    (r0 + a) * (r1 - out) > r0 * r1 := by
  obtain ⟨hpos, rfl⟩ := (buyForSell_some h0.le h1.le).1 h
  have hb0 : 0 < ((a + r0) * 1000 - a * 2) * 1000 := by omega
  have hq0 := Int.ediv_nonneg (show 0 ≤ r0 * r1 * 1000000 by positivity) hb0.le
  have hlt := Int.lt_ediv_add_one_mul_self (r0 * r1 * 1000000) hb0
  generalize r0 * r1 * 1000000 / (((a + r0) * 1000 - a * 2) * 1000) = q at *
  have e : r1 - (r1 - q - 1) = q + 1 := by ring
  have hfee : r0 * r1 * 1000000 ≤ ((a + r0) * 1000 - a * 2) * ((q + 1) * 1000) := by linarith
  rw [e]
  exact ⟨hpos, by omega, hfee, plainK_lt_of_feeK ha (by omega) hfee⟩

/-- Strict because of the `+ 1` in `sellForBuy`. -/
theorem sellForBuy_K_strict (r0 r1 out inp : Int) (h0 : 0 < r0) (ho : 0 < out)
    (h : sellForBuy r0 r1 out = some inp) :
    out < r1 ∧ 0 < inp ∧ r0 * r1 * 1000000 < ((inp + r0) * 1000 - inp * 2) * ((r1 - out) * 1000) := by
  obtain ⟨hlt, rfl⟩ := sellForBuy_some h0.le ho.le h
  have hb : 0 < (r1 - out) * 1000 := by omega
  have hm0 := Int.ediv_nonneg (show 0 ≤ r0 * out * 1000000 by positivity) hb.le
  have hm := Int.lt_ediv_add_one_mul_self (r0 * out * 1000000) hb
  generalize r0 * out * 1000000 / ((r1 - out) * 1000) = m at *
  have hp0 := Int.ediv_nonneg hm0 (by decide : (0 : Int) ≤ 998)
  have hp := Int.lt_ediv_add_one_mul_self m (by decide : (0 : Int) < 998)
  generalize m / 998 = p at *
  refine ⟨hlt, by omega, ?_⟩
  -- the input with the fee taken off, `998·(p+1) + 1000·r0`, exceeds `m + 1000·r0`, and `k = 10⁶·r0·out + 1000·r0·b`
  have := mul_le_mul_of_nonneg_right (show m + 1 + r0 * 1000 ≤ (p + 1 + r0) * 1000 - (p + 1) * 2 by omega) hb.le
  linarith

theorem sellForBuy_K (r0 r1 out inp : Int) (h0 : 0 < r0) (h1 : 0 < r1) (ho : 0 < out)
    (h : sellForBuy r0 r1 out = some inp) :
    out < r1 ∧ 0 < inp ∧
    ((inp + r0) * 1000 - inp * 2) * ((r1 - out) * 1000) ≥ r0 * r1 * 1000000 ∧
    (r0 + inp) * (r1 - out) ≥ r0 * r1 := by
  obtain ⟨hlt, hi, hk⟩ := sellForBuy_K_strict r0 r1 out inp h0 ho h
  exact ⟨hlt, hi, hk.le, plainK_of_feeK hi.le (by omega) hk.le⟩

theorem checkSwap_sound (r0 r1 in0 out1 : Int) (h0 : 0 < r0) (h1 : 0 < r1)
    (h : checkSwap r0 r1 in0 out1 = none) :
    0 < out1 ∧ out1 ≤ r1 ∧ ((in0 + r0) * 1000 - in0 * 2) * ((r1 - out1) * 1000) ≥ r0 * r1 * 1000000 := by
  unfold checkSwap at h
  simp only at h
  split_ifs at h with hl ho hi hk
  have e : (0 - out1 + r1) * 1000 = (r1 - out1) * 1000 := by ring
  rw [e] at hk
  exact ⟨by omega, by omega, not_lt.mp hk⟩

theorem checkSwap_none {r0 r1 in0 out1 : Int} (h0 : 0 ≤ r0) (hi : 0 < in0) (ho : 0 < out1) (hl : out1 ≤ r1)
    (hk : ((in0 + r0) * 1000 - in0 * 2) * ((r1 - out1) * 1000) ≥ r0 * r1 * 1000000) : checkSwap r0 r1 in0 out1 = none := by
  unfold checkSwap
  have e : (0 - out1 + r1) * 1000 = (r1 - out1) * 1000 := by ring
  simp only [e]
  rw [if_neg (by omega), if_neg (by omega), if_neg (by omega), if_neg (not_lt.mpr hk)]

theorem burn_le_share (r0 r1 supply liq : Int) (hs : 0 < supply) :
    (burnAmounts r0 r1 supply liq).1 * supply ≤ liq * r0 ∧ (burnAmounts r0 r1 supply liq).2 * supply ≤ liq * r1 := by
  unfold burnAmounts
  exact ⟨Int.ediv_mul_le _ (ne_of_gt hs), Int.ediv_mul_le _ (ne_of_gt hs)⟩

theorem mint_then_burn_le (r0 r1 supply a0 : Int) (h0 : 0 < r0) (h1 : 0 < r1) (hs : 0 < supply) (ha : 0 ≤ a0) :
    let m := addLiquidity r0 r1 supply a0
    let b := burnAmounts (r0 + a0) (r1 + m.2) (supply + m.1) m.1
    b.1 ≤ a0 ∧ b.2 ≤ m.2 := by
  simp only [addLiquidity, burnAmounts]
  have hL0 : 0 ≤ supply * a0 / r0 := Int.ediv_nonneg (by positivity) h0.le
  have hLle := Int.ediv_mul_le (supply * a0) (ne_of_gt h0)
  have ha1lt := Int.lt_ediv_add_one_mul_self (a0 * r1) h0
  generalize supply * a0 / r0 = L at *
  generalize a0 * r1 / r0 = a1 at *
  have hden : 0 < supply + L := by omega
  constructor
  · exact Int.ediv_le_of_le_mul hden (by linarith)
  · -- `L/supply ≤ a0/r0 < (a1+1)/r1`, cross-multiplied through `r0`
    have key : L * r1 < supply * (a1 + 1) :=
      lt_of_mul_lt_mul_right (a := r0) (by
        linarith [mul_le_mul_of_nonneg_right hLle h1.le, mul_lt_mul_of_pos_left ha1lt hs]) h0.le
    exact Int.lt_add_one_iff.mp (Int.ediv_lt_of_lt_mul hden (by linarith))

theorem startingSupply_sq (a0 a1 : Int) (h : 0 ≤ a0 * a1) : startingSupply a0 a1 * startingSupply a0 a1 ≤ a0 * a1 := by
  unfold startingSupply
  have h1 := Nat.sqrt_le (a0 * a1).toNat
  have h2 : ((a0 * a1).toNat : Int) = a0 * a1 := Int.toNat_of_nonneg h
  have h3 : ((Nat.sqrt (a0 * a1).toNat * Nat.sqrt (a0 * a1).toNat : Nat) : Int) ≤ ((a0 * a1).toNat : Int) := by exact_mod_cast h1
  rw [h2] at h3
  simpa using h3

theorem com1000_eq (a : Int) (ha : 0 ≤ a) : com1000 a = a / 1000 + (if a % 1000 > 0 then 1 else 0) := by
  unfold com1000
  rw [Int.tdiv_eq_ediv_of_nonneg ha, Int.tmod_eq_emod_of_nonneg ha]

theorem com0999_eq (a : Int) (ha : 0 ≤ a) : com0999 a = a / 999 + (if a % 999 > 0 then 1 else 0) := by
  unfold com0999
  rw [Int.tdiv_eq_ediv_of_nonneg ha, Int.tmod_eq_emod_of_nonneg ha]

/-! The three commissions as ceilings, the form `omega` works with. -/

theorem com1000_ceil (a : Int) (ha : 0 ≤ a) : com1000 a = (a + 999) / 1000 := by
  rw [com1000_eq a ha]
  split <;> omega

theorem com0999_ceil (a : Int) (ha : 0 ≤ a) : com0999 a = (a + 998) / 999 := by
  rw [com0999_eq a ha]
  split <;> omega

theorem com1001_ceil (a : Int) (ha : 0 ≤ a) : com1001 a = (a + 1000) / 1001 := by
  unfold com1001
  rw [Int.tdiv_eq_ediv_of_nonneg ha, Int.tmod_eq_emod_of_nonneg ha]
  split <;> omega

theorem com1000_bounds (a : Int) (ha : 0 ≤ a) : 0 ≤ com1000 a ∧ com1000 a ≤ a := by
  rw [com1000_ceil a ha]
  omega

theorem com1001_bounds (a : Int) (ha : 0 ≤ a) : 0 ≤ com1001 a ∧ com1001 a ≤ a := by
  rw [com1001_ceil a ha]
  omega

theorem com0999_nonneg (a : Int) (ha : 0 ≤ a) : 0 ≤ com0999 a := by
  rw [com0999_ceil a ha]
  omega

/-! Non-vacuity: reserves where the hypotheses hold and a trade happens. -/
example : buyForSell 1000000 2000000 1000 = some 1994 := by decide
example : sellForBuy 1000000 2000000 1993 = some 1000 := by decide
example : checkSwap 1000000 2000000 1000 1993 = none := by decide

end Minter

namespace Minter.Lob

/-- Buy side: grossing the wanted amount up by 1/999 and taking 1/1000 off returns exactly the wanted amount. -/
theorem gross_net (x : Int) (hx : 0 ≤ x) : (x + com0999 x) - com1000 (x + com0999 x) = x := by
  rw [com1000_ceil _ (by have := com0999_nonneg x hx; omega), com0999_ceil x hx]
  omega

end Minter.Lob
