import MinterProofs.EventsCommit
/-
  C24 — The events a node records for a height load back for that height unchanged; this holds after restarts and however many
  distinct addresses and validator keys have appeared before.

  TRUE up to 65 534 distinct validator public keys (and 2^32-1 distinct addresses); FALSE beyond (F25,
  MinterProofs/Props/C24Bound.lean): with exactly 65 535 keys a restarted store reloads *no* key (`loadPubKeys` computes
  `count+1` in uint16), and the 65 536th key gets id 0, which is the marker for "no validator key".  Both were replayed on the
  real store (harness mode `events`, thorough tier).

  Everything is read off `run_spec`: a bounded run from a store with the invariant `Inv` keeps it and changes what a height
  loads only by committing there.  All statements are about op sequences from a fresh DB (`Reach`), i.e. every reachable
  store state; heights need not even be increasing — committing at distinct heights is all `load_stable` needs.
-/
namespace Minter
namespace Ev

def Reach (ops : List Op) (st : EvStore) : Prop := run EvStore.empty ops = some st

def Bounded (ops : List Op) : Prop :=
  (seenKeys [] ops).length ≤ 65534 ∧ (seenAddrs [] ops).length ≤ 4294967295

instance (ops : List Op) : Decidable (Bounded ops) := by unfold Bounded; infer_instance

def BoundedFrom (ks as : List Nat) (ops : List Op) : Prop :=
  (seenKeys ks ops).length ≤ 65534 ∧ (seenAddrs as ops).length ≤ 4294967295

theorem seen_prefix (ops : List Op) : ∀ ks as : List Nat, ks <+: seenKeys ks ops ∧ as <+: seenAddrs as ops := by
  induction ops with
  | nil => exact fun _ _ => ⟨List.prefix_rfl, List.prefix_rfl⟩
  | cons op ops ih =>
    intro ks as
    cases op with
    | commit h b =>
      obtain ⟨hk, ha⟩ := ih (seenKeysB ks b) (seenAddrsB as b)
      exact ⟨(seenKeysB_prefix b ks).trans hk, (seenAddrsB_prefix b as).trans ha⟩
    | _ => exact ih ks as

theorem BoundedFrom.append {ops2 : List Op} (ops1 : List Op) : ∀ {ks as : List Nat}, BoundedFrom ks as (ops1 ++ ops2) →
    BoundedFrom ks as ops1 ∧ BoundedFrom (seenKeys ks ops1) (seenAddrs as ops1) ops2 := by
  induction ops1 with
  | nil =>
    intro ks as h
    exact ⟨⟨Nat.le_trans (seen_prefix ops2 ks as).1.length_le h.1, Nat.le_trans (seen_prefix ops2 ks as).2.length_le h.2⟩, h⟩
  | cons op ops1 ih => intro ks as h; cases op <;> exact ih h

theorem run_cons_some {st st' : EvStore} {op : Op} {ops : List Op} (h : run st (op :: ops) = some st') :
    ∃ st1, step st op = some st1 ∧ run st1 ops = some st' := by
  simp only [run] at h
  split at h
  · cases h
  · exact ⟨_, ‹_›, h⟩

theorem run_append (l1 l2 : List Op) (st : EvStore) :
    run st (l1 ++ l2) = (run st l1).bind (fun s => run s l2) := by
  induction l1 generalizing st with
  | nil => rfl
  | cons o l ih =>
    cases hs : step st o with
    | none => simp [run, hs]
    | some s1 => simp only [List.cons_append, run, hs]; exact ih s1

def lastCommitted : List Op → Nat → Option (List Event)
  | [], _ => none
  | .commit h' b :: ops, h =>
    match lastCommitted ops h with
    | some x => some x
    | none => if h' = h then some b else none
  | _ :: ops, h => lastCommitted ops h

def AllWF : List Op → Prop
  | [] => True
  | .commit _ b :: ops => (∀ e ∈ b, e.WF) ∧ AllWF ops
  | _ :: ops => AllWF ops

instance : (ops : List Op) → Decidable (AllWF ops)
  | [] => by unfold AllWF; infer_instance
  | .commit _ b :: ops => by
      unfold AllWF
      have := instDecidableAllWF ops
      infer_instance
  | .load _ :: ops => by unfold AllWF; exact instDecidableAllWF ops
  | .restart :: ops => by unfold AllWF; exact instDecidableAllWF ops

theorem lastCommitted_cons (op : Op) (ops : List Op) (h : Nat) :
    lastCommitted (op :: ops) h = match lastCommitted ops h with
      | some x => some x
      | none => lastCommitted [op] h := by
  cases op <;> simp only [lastCommitted] <;> cases lastCommitted ops h <;> rfl

theorem AllWF_cons {op : Op} {ops : List Op} (wf : AllWF (op :: ops)) : AllWF [op] ∧ AllWF ops := by
  cases op
  · exact ⟨⟨wf.1, trivial⟩, wf.2⟩
  · exact ⟨trivial, wf⟩
  · exact ⟨trivial, wf⟩

/-! ### one operation, then a run, from a state satisfying the invariant -/

section
variable {st st' : EvStore} {ks ks' as as' : List Nat}

/-- The records refer only to ids that existed before, whose meaning did not change. -/
theorem load_stable (i : Inv st ks as) (i' : Inv st' ks' as') (hk : ks <+: ks')
    (ha : as <+: as') (hb : ks'.length ≤ 65534) {h : Nat} (e : st'.disk.blocks.get? h = st.disk.blocks.get? h) :
    load st' h = load st h := by
  rw [load_eq i' (fun _ => hb), load_eq i (fun _ => Nat.le_trans hk.length_le hb), e]
  cases hg : st.disk.blocks.get? h with
  | none => rfl
  | some rs => simp only [loadA, expandAllA_stable (i.recs h rs hg) hk ha]

theorem step_spec (i : Inv st ks as) {op : Op}
    (hb : BoundedFrom ks as [op]) (hs : step st op = some st') :
    Inv st' (seenKeys ks [op]) (seenAddrs as [op]) ∧
      (∀ h, (∀ b, op ≠ .commit h b) → load st' h = load st h) ∧
      (AllWF [op] → ∀ h, load st' h = match lastCommitted [op] h with
        | some b => .ok b
        | none => load st h) := by
  have stable : Inv st' (seenKeys ks [op]) (seenAddrs as [op]) → ∀ {h}, st'.disk.blocks.get? h = st.disk.blocks.get? h →
      load st' h = load st h :=
    fun i' _ e => load_stable i i' (seen_prefix [op] ks as).1 (seen_prefix [op] ks as).2 hb.1 e
  cases op with
  | commit h' b =>
    obtain ⟨_, i', f, x⟩ := commit_inv i (fun _ => Nat.le_trans (seenKeysB_prefix b ks).length_le hb.1)
      (Nat.le_succ_of_le hb.1) hb.2 hs
    have s : ∀ h, h ≠ h' → load st' h = load st h := fun h hne => stable i' (f h hne)
    refine ⟨i', fun h hne => s h fun e => hne b (e ▸ rfl), fun wf h => ?_⟩
    simp only [lastCommitted]
    by_cases e : h' = h
    · rw [if_pos e]; exact e ▸ x wf.1
    · rw [if_neg e]; exact s h (Ne.symm e)
  | load h' =>
    cases hs
    have i' := (loadCache_inv i fun _ => hb.1).inv (loadCache_disk st ▸ i.recs)
    exact ⟨i', fun h _ => stable i' (by rw [loadCache_disk]), fun _ h => stable i' (by rw [loadCache_disk])⟩
  | restart =>
    cases hs
    have i' : Inv (restart st) ks as := ⟨i.dp, i.da, .inl ⟨CW.empty 1, CW.empty 0⟩, i.recs⟩
    exact ⟨i', fun h _ => stable i' rfl, fun _ h => stable i' rfl⟩

theorem run_spec (ops : List Op) : ∀ {st st' : EvStore} {ks as : List Nat}, Inv st ks as → BoundedFrom ks as ops →
    run st ops = some st' →
    Inv st' (seenKeys ks ops) (seenAddrs as ops) ∧
      (∀ h, (∀ b, Op.commit h b ∉ ops) → load st' h = load st h) ∧
      (AllWF ops → ∀ h, load st' h = match lastCommitted ops h with
        | some b => .ok b
        | none => load st h) := by
  induction ops with
  | nil => intro st st' ks as i _ hr; cases hr; exact ⟨i, fun _ _ => rfl, fun _ _ => rfl⟩
  | cons op ops ih =>
    intro st st' ks as i hb hr
    obtain ⟨hb1, hb2⟩ := BoundedFrom.append [op] hb
    obtain ⟨st1, hs, hr⟩ := run_cons_some hr
    obtain ⟨i1, s1, f1⟩ := step_spec i hb1 hs
    obtain ⟨i', s', f'⟩ := ih i1 hb2 hr
    have ek : seenKeys ks (op :: ops) = seenKeys (seenKeys ks [op]) ops := by cases op <;> rfl
    have ea : seenAddrs as (op :: ops) = seenAddrs (seenAddrs as [op]) ops := by cases op <;> rfl
    refine ⟨ek ▸ ea ▸ i', fun h hne => ?_, fun wf h => ?_⟩
    · rw [s' h fun b hm => hne b (List.mem_cons_of_mem _ hm)]
      exact s1 h fun b e => hne b (e ▸ List.mem_cons_self)
    · rw [f' (AllWF_cons wf).2 h, lastCommitted_cons]
      cases lastCommitted ops h with
      | some x => rfl
      | none => exact f1 (AllWF_cons wf).1 h

theorem run_total : ∀ (ops : List Op) (st : EvStore), AllWF ops → ∃ st', run st ops = some st'
  | [], st, _ => ⟨st, rfl⟩
  | op :: ops, st, wf => by
    obtain ⟨st1, hs⟩ : ∃ st1, step st op = some st1 := by
      cases op with
      | commit h b => exact Option.isSome_iff_exists.mp (commit_isSome st h fun e he => (wf.1 e he).roleOK)
      | load h => exact ⟨_, rfl⟩
      | restart => exact ⟨_, rfl⟩
    obtain ⟨st', hr⟩ := run_total ops st1 (AllWF_cons wf).2
    exact ⟨st', by simp only [run, hs, hr]⟩

end

theorem reach_inv {ops : List Op} {st : EvStore} (hr : Reach ops st) (hb : Bounded ops) :
    Inv st (seenKeys [] ops) (seenAddrs [] ops) :=
  (run_spec ops Inv_empty hb hr).1

theorem load_empty (h : Nat) : load EvStore.empty h = .absent :=
  (load_eq Inv_empty (fun _ => Nat.zero_le _) h).trans (by simp [loadA, EvStore.empty])

/-! ### the property -/

/-- `_partial`: the bound, which counts this batch as well, is necessary (Props/C24Bound.lean). -/
theorem C24_load_commit_partial (ops : List Op) (st : EvStore) (h : Nat) (b : List Event)
    (hr : Reach ops st) (hb : Bounded (ops ++ [.commit h b])) (wf : ∀ e ∈ b, e.WF) :
    ∃ st', commit st h b = some st' ∧ load st' h = .ok b := by
  obtain ⟨hb1, hb2⟩ := BoundedFrom.append ops hb
  obtain ⟨st', hs⟩ := Option.isSome_iff_exists.mp (commit_isSome st h fun e he => (wf e he).roleOK)
  exact ⟨st', hs, ((step_spec (reach_inv hr hb1) hb2 hs).2.2 ⟨wf, trivial⟩ h).trans (by simp [lastCommitted])⟩

theorem C24_load_stable_run (more : List Op) : ∀ (ops : List Op) (st st' : EvStore) (h : Nat),
    Reach ops st → Bounded (ops ++ more) → run st more = some st' →
    (∀ b, Op.commit h b ∉ more) → load st' h = load st h := by
  intro ops st st' h hr hb hrun hne
  obtain ⟨hb1, hb2⟩ := BoundedFrom.append ops hb
  exact (run_spec more (reach_inv hr hb1) hb2 hrun).2.1 h hne

theorem C24_load_stable (ops : List Op) (st st' : EvStore) (op : Op) (h : Nat)
    (hr : Reach ops st) (hb : Bounded (ops ++ [op])) (hs : step st op = some st')
    (hne : ∀ b, op ≠ .commit h b) : load st' h = load st h :=
  C24_load_stable_run [op] ops st st' h hr hb (by simp only [run, hs])
    (fun b hm => hne b (List.mem_singleton.mp hm).symm)

theorem C24_restart_transparent (ops : List Op) (st : EvStore) (h : Nat)
    (hr : Reach ops st) (hb : Bounded ops) : load (restart st) h = load st h :=
  (step_spec (reach_inv hr hb) (op := .restart) hb rfl).2.1 h nofun

theorem C24_tables_injective (ops : List Op) (st : EvStore) (hr : Reach ops st) (hb : Bounded ops) :
    (∀ i j k, st.cache.idPub.get? i = some k → st.cache.idPub.get? j = some k → i = j) ∧
    (∀ k i, st.cache.pubId.get? k = some i ↔ st.cache.idPub.get? i = some k) ∧
    (∀ i j a, st.cache.idAddr.get? i = some a → st.cache.idAddr.get? j = some a → i = j) ∧
    (∀ a i, st.cache.addrId.get? a = some i ↔ st.cache.idAddr.get? i = some a) ∧
    (∀ c, st.disk.pkCount = some c → ∀ i j, 1 ≤ i → i ≤ c → 1 ≤ j → j ≤ c →
        st.disk.pk.get? i = st.disk.pk.get? j → i = j) ∧
    (∀ c, st.disk.adCount = some c → ∀ i j, i < c → j < c → st.disk.ad.get? i = st.disk.ad.get? j → i = j) := by
  have i := reach_inv hr hb
  -- the cache is empty or describes the same lists as the disk tables
  have pk := (i.cache.imp And.left And.left).elim (·.inj .nil) (·.inj i.dp.nodup)
  have ad := (i.cache.imp And.right And.right).elim (·.inj .nil) (·.inj i.da.nodup)
  exact ⟨pk.1, pk.2, ad.1, ad.2,
    fun c hc a b h1 h2 h3 h4 e => i.dp.inj hc h1 (Nat.lt_one_add_iff.mpr h2) h3 (Nat.lt_one_add_iff.mpr h4) e,
    fun c hc a b h1 h2 e => i.da.inj hc (Nat.zero_le a) (c.zero_add.symm ▸ h1) (Nat.zero_le b) (c.zero_add.symm ▸ h2) e⟩

/-- C24 in one statement: after a bounded run of well-formed batches `LoadEvents(h)` returns, for every height `h`, exactly the
    batch last committed at `h` (`.absent`, Go's nil, if there is none). -/
theorem C24_run_faithful (ops : List Op) (st : EvStore) (h : Nat)
    (hr : Reach ops st) (hb : Bounded ops) (wf : AllWF ops) :
    load st h = match lastCommitted ops h with
      | some b => .ok b
      | none => .absent := by
  rw [(run_spec ops Inv_empty hb hr).2.2 wf h]
  cases lastCommitted ops h with
  | some b => rfl
  | none => exact load_empty h

theorem C24_run_total (ops : List Op) (hb : Bounded ops) (wf : AllWF ops) : ∃ st, Reach ops st :=
  run_total ops EvStore.empty wf

/-! ### non-vacuity: a concrete sequence meeting all hypotheses (same key in three roles, no-key unbond, zero and 10^33 amounts,
    empty batch, restart between commits) -/

def exOps : List Op :=
  [ .commit 5 [.reward 2 0xaa 1000000000000000000000000000000000 0xbb 7, .unbond 0xaa 0 3 none, .jail 0xbb 99,
               .move 0xcc 5 0 0xbb 0xdd, .removeCandidate 0xbb, .updateNetwork [118, 50]],
    .load 5, .restart, .commit 6 [], .commit 8 [.slash 0xaa 1 4294967295 0xdd, .orderExpired 4294967295 0xee 1993 12], .load 5 ]

example : Bounded exOps ∧ AllWF exOps := by decide
example : Bounded (exOps ++ [.commit 9 [.kick 0xaa 1 0 0xbb]]) ∧ (∀ e ∈ [Event.kick 0xaa 1 0 0xbb], e.WF) := by decide
example : lastCommitted exOps 5 = some [.reward 2 0xaa 1000000000000000000000000000000000 0xbb 7, .unbond 0xaa 0 3 none, .jail 0xbb 99,
               .move 0xcc 5 0 0xbb 0xdd, .removeCandidate 0xbb, .updateNetwork [118, 50]] ∧ lastCommitted exOps 7 = none := by decide
example : ∃ st, Reach exOps st ∧ load st 6 = .ok [] ∧ load st 7 = .absent ∧ load (restart st) 6 = .ok [] := by
  have hb : Bounded exOps := by decide
  have wf : AllWF exOps := by decide
  obtain ⟨st, hr⟩ := C24_run_total exOps hb wf
  have h6 : load st 6 = .ok [] := C24_run_faithful exOps st 6 hr hb wf
  exact ⟨st, hr, h6, C24_run_faithful exOps st 7 hr hb wf, (C24_restart_transparent exOps st 6 hr hb).trans h6⟩

end Ev
end Minter
