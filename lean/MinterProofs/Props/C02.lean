import MinterModel.Tx
import MinterProofs.Props.C04
/-
  C02 — Amounts never go negative and coin volume never exceeds max supply (transaction level): the invariant and its first cases.

  `AmountsOk` is the Prop form of the monitor `amountsOk` (State.lean) with balances read through `balanceOf` (sum semantics):
  `amountsOk s = true → AmountsOk s` (`amountsOk_sound`).

  Proved here: `AmountsOk` is preserved by an ACCEPTED delivery of
      Send (1), Multisend (13), EditCoinOwner (17), MintToken (28), BurnToken (29)
  and by any delivery the prologue rejects, when the commission is paid in the BASE coin (`t.gasCoin = 0`; the commission move is then
  `feeBase`) and the decoded amounts are non-negative (RLP cannot encode a negative integer: hypothesis `0 ≤ t.int …`):
      `C02_partial_send`, `C02_partial_multisend`, `C02_partial_edit_owner`, `C02_partial_mint`, `C02_partial_burn`,
      `C02_partial_1_13_17_28_29` (the five together).
  Each is a walk through the plan, one primitive at a time (`AmountsOk.debit`, `.credit`, `.addVolume`, …), with the balance checks
  of the handler (`send_spec`, `multisend_funds`, `mint_funds`, `burn_funds`) as the side conditions.
  Commissions paid in a bancor coin (under the oracle envelope `OracleSound`, stated below) or through a pool, the failure fee and
  the other 32 types are in Props/C02More.lean.  The correspondence check evaluates the monitor `amountsOk` on every committed state
  of every run.
-/
namespace Minter

/-- The oracle envelope under which a bancor-paid commission is covered (used from AmountsFee.lean on). -/
structure OracleSound (o : Oracle) : Prop where
  nonneg : ∀ q v, o q = some v → 0 ≤ v
  saleReturnLeReserve : ∀ vol res crr sell v, o (.saleReturn vol res crr sell) = some v → 0 ≤ sell → sell ≤ vol → v ≤ res
  saleAmountLeVolume : ∀ vol res crr want v, o (.saleAmount vol res crr want) = some v → 0 ≤ want → want ≤ res → v ≤ vol

structure AmountsOk (s : State) : Prop where
  balances : ∀ a c, 0 ≤ balanceOf s a c
  coins : ∀ ci ∈ s.coins, 0 ≤ ci.volume ∧ 0 ≤ ci.reserve ∧ ci.volume ≤ ci.maxSupply
  stakes : ∀ cd ∈ s.candidates, (∀ st ∈ cd.stakes, 0 ≤ st.value) ∧ (∀ st ∈ cd.updates, 0 ≤ st.value)
  waitlist : ∀ w ∈ s.waitlist, 0 ≤ w.value
  frozen : ∀ f ∈ s.frozen, 0 ≤ f.value
  pools : ∀ p ∈ s.pools, 0 < p.r0 ∧ 0 < p.r1
  orders : ∀ o ∈ s.orders, 0 ≤ o.v0 ∧ 0 ≤ o.v1
  validators : ∀ v ∈ s.validators, 0 ≤ v.accum
  slashed : 0 ≤ s.slashed

theorem bag_sumIf_nonneg {κ : Type} [DecidableEq κ] (m : Bag κ) (p : κ → Bool) (h : Bag.nonneg m = true) : 0 ≤ Bag.sumIf p m := by
  induction m with
  | nil => exact Int.le_refl 0
  | cons e t ih =>
    simp only [Bag.nonneg, Bool.and_eq_true, decide_eq_true_eq] at h
    have := ih h.2
    simp only [Bag.sumIf]
    split <;> omega

/-- The Boolean monitor implies the Prop form. -/
theorem amountsOk_sound (s : State) (h : amountsOk s = true) : AmountsOk s := by
  simp only [amountsOk, stakesNonneg, Bool.and_eq_true, List.all_eq_true, decide_eq_true_eq] at h
  obtain ⟨⟨⟨⟨⟨⟨⟨⟨hb, hc⟩, hst⟩, hw⟩, hf⟩, hp⟩, ho⟩, hv⟩, hs⟩ := h
  exact ⟨fun _ _ => bag_sumIf_nonneg _ _ hb, fun ci hci => ⟨(hc ci hci).1.1, (hc ci hci).1.2, (hc ci hci).2⟩, hst, hw, hf, hp, ho, hv, hs⟩

/-! ### One primitive at a time: the primitives of the five types below -/

namespace AmountsOk
variable {s : State} (hok : AmountsOk s)
include hok

theorem addBal {a : Addr} {c : Coin} {v : Int} (h : 0 ≤ balanceOf s a c + v) : AmountsOk ((Prim.addBal a c v).apply s) := by
  refine { hok with balances := fun x k => ?_ }
  rw [apply_balance', Prim.balDelta']
  split
  · next e => rw [← e.1, ← e.2]; exact h
  · exact Int.add_zero _ ▸ hok.balances x k

theorem debit {a : Addr} {c : Coin} {v : Int} (h : v ≤ balanceOf s a c) : AmountsOk ((Prim.addBal a c (-v)).apply s) :=
  hok.addBal (Int.sub_nonneg_of_le h)

theorem credit (a : Addr) (c : Coin) {v : Int} (h : 0 ≤ v) : AmountsOk ((Prim.addBal a c v).apply s) :=
  hok.addBal (Int.add_nonneg (hok.balances a c) h)

theorem addVolume {c : Coin} {v : Int} (h : ∀ ci, getCoin s c = some ci → 0 ≤ ci.volume + v ∧ ci.volume + v ≤ ci.maxSupply) :
    AmountsOk ((Prim.addVolume c v).apply s) := by
  refine { hok with balances := hok.balances, coins := fun x hx => ?_ }
  rcases mem_updFirst_find _ _ _ _ hx with hx | ⟨y, hy, rfl⟩
  · exact hok.coins x hx
  · exact ⟨(h y hy).1, (hok.coins y (findFirst_mem _ _ _ hy).1).2.1, (h y hy).2⟩

theorem addRewards (v : Int) : AmountsOk ((Prim.addRewards v).apply s) := { hok with balances := hok.balances }

theorem setNonce (a : Addr) (n : Nat) : AmountsOk ((Prim.setNonce a n).apply s) := { hok with balances := hok.balances }

theorem setCoinOwner (sym : String) (a : Addr) : AmountsOk ((Prim.setCoinOwner sym a).apply s) := by
  refine { hok with balances := hok.balances, coins := fun x hx => ?_ }
  obtain ⟨y, hy, rfl⟩ := List.mem_map.mp hx
  split <;> exact hok.coins y hy

end AmountsOk

/-- A delivery rejected by the prologue changes nothing. -/
theorem C02_prologue_reject (P : Params) (o : Oracle) (s s' : State) (b : Nat) (t : TxIn) (out : Outcome) (c : Nat)
    (hp : prologue P s b t = some c) (h : deliverTx P o s b t = .ok out) (ha : applyChecked s out.plan = some s')
    (hok : AmountsOk s) : AmountsOk s' := by
  rw [deliverTx, hp] at h
  cases h
  cases ha
  exact hok

/-! ### Commission in the base coin -/

theorem calcCommission_base (P : Params) (o : Oracle) (s : State) (price : Int) (com : Com)
    (h : calcCommission P o s 0 price = .ok (.ok com)) : com = ⟨price, price, false⟩ := by
  cases h; rfl

theorem basePrice_nonneg (s : State) (t : TxIn) (price : Int) (h : basePrice s t = .ok (.ok price)) : 0 ≤ price := by
  simp only [basePrice] at h
  split at h
  · cases h
  split at h
  · cases h; exact Int.le_refl _
  split at h
  · cases h
  · cases h
  · split at h <;> cases h
    omega

theorem applyChecked_eq_applyAll (s s' : State) (ps : List Prim) (h : applyChecked s ps = some s') : s' = applyAll s ps := by
  induction ps generalizing s with
  | nil => cases h; rfl
  | cons p t ih => exact ih _ (applyChecked_cons _ _ _ _ h).2

/-- The plan of an accepted delivery whose commission the sender pays in the base coin, for a handler that ended in `ready`. -/
theorem deliver_base_gas (P : Params) (o : Oracle) (s : State) (b : Nat) (t : TxIn) (out : Outcome)
    (h : deliverTx P o s b t = .ok out) (h0 : out.code = 0) (hg : t.gasCoin = 0) (h5 : t.typ ≠ 5) (h30 : t.typ ≠ 30) :
    ∃ price rd, runData P o s b t price = .ok (.ok rd) ∧
      ∀ com body tags, calcCommission P o s t.gasCoin price = .ok (.ok com) →
        rd = { payer := t.sender, coin := t.gasCoin, com := com, exec := fun _ => pure (body, tags) } →
        com.commission = price ∧
        out.plan = .addBal t.sender 0 (-price) :: .addRewards price :: (planOf body ++ [.setNonce t.sender t.nonce]) := by
  obtain ⟨price, rd, paid, body', tags', -, hr, hpay, he, hm⟩ := deliver_accepted_moves P o s b t out h h0 h5 h30
  refine ⟨price, rd, hr, fun com body tags hcom hrd => ?_⟩
  subst hrd
  rw [hg] at hcom hpay
  cases calcCommission_base P o s price com hcom
  simp only [payCommission, Bool.false_eq_true, if_false, bne_self_eq_false] at hpay
  cases hpay
  cases he
  refine ⟨rfl, ?_⟩
  simp [Outcome.plan, hm, planOf, Move.prims, Prim.isAdmin]

/-! ### Send (1) -/

theorem send_spec (P : Params) (o : Oracle) (s : State) (t : TxIn) (price : Int) (rd : Ready)
    (h : runSend P o s t price = .ok (.ok rd)) :
    ∃ com, calcCommission P o s t.gasCoin price = .ok (.ok com) ∧
      (t.gasCoin ≠ t.nat "d.Coin" → t.int "d.Value" ≤ balanceOf s t.sender (t.nat "d.Coin")) ∧
      t.addIfGas (t.nat "d.Coin") com.commission (t.int "d.Value") ≤ balanceOf s t.sender t.gasCoin ∧
      rd = { payer := t.sender, coin := t.gasCoin, com := com, exec := fun _ => pure (
        [.transfer t.sender (t.hex "d.To") (t.nat "d.Coin") (t.int "d.Value")], []) } := by
  simp only [runSend, guard_ready_iff, withCom_ready_iff, ready_iff, Bool.and_eq_true, bne_iff_ne, decide_eq_true_eq, not_and,
    Int.not_lt] at h
  exact h.2

/-- **C02 (Send, base-coin gas).** -/
theorem C02_partial_send (P : Params) (o : Oracle) (s s' : State) (b : Nat) (t : TxIn) (out : Outcome)
    (ht : t.typ = 1) (hg : t.gasCoin = 0) (hv : 0 ≤ t.int "d.Value")
    (h : deliverTx P o s b t = .ok out) (h0 : out.code = 0) (ha : applyChecked s out.plan = some s')
    (hok : AmountsOk s) : AmountsOk s' := by
  obtain ⟨price, rd, hr, hplan⟩ := deliver_base_gas P o s b t out h h0 hg (by omega) (by omega)
  rw [runData, ht] at hr
  obtain ⟨com, hcom, hf1, hf2, rfl⟩ := send_spec P o s t price rd hr
  obtain ⟨rfl, hplan⟩ := hplan com _ _ hcom rfl
  rw [applyChecked_eq_applyAll s s' _ ha, hplan]
  simp only [TxIn.addIfGas, hg, beq_iff_eq] at hf1 hf2
  refine ((((hok.debit ?_).addRewards _).debit ?_).credit _ _ hv).setNonce _ _
  · split at hf2
    · exact Int.le_trans (Int.le_add_of_nonneg_right hv) hf2
    · exact hf2
  · simp only [apply_balance', Prim.balDelta', true_and, Int.add_zero]
    split
    · next e => rw [if_pos e] at hf2; rw [← e]; exact Int.le_sub_left_of_add_le hf2
    · next e => rw [Int.add_zero]; exact hf1 e

/-! ### EditCoinOwner (17), MintToken (28), BurnToken (29) -/

theorem edit_owner_funds (P : Params) (o : Oracle) (s : State) (t : TxIn) (price : Int) (rd : Ready)
    (h : runEditCoinOwner P o s t price = .ok (.ok rd)) :
    symbolOwner s (t.str "d.Symbol") = some t.sender ∧
    ∃ com, calcCommission P o s t.gasCoin price = .ok (.ok com) ∧ com.commission ≤ balanceOf s t.sender t.gasCoin ∧
      rd = { payer := t.sender, coin := t.gasCoin, com := com, exec := fun _ => pure (
        [.admin (.setCoinOwner (t.str "d.Symbol") (t.hex "d.NewOwner"))], []) } := by
  simp only [runEditCoinOwner, guard_ready_iff, withCom_ready_iff, ready_iff, Int.not_lt, bne_iff_ne, ne_eq, Decidable.not_not] at h
  exact h.2

/-- **C02 (EditCoinOwner, base-coin gas).** -/
theorem C02_partial_edit_owner (P : Params) (o : Oracle) (s s' : State) (b : Nat) (t : TxIn) (out : Outcome)
    (ht : t.typ = 17) (hg : t.gasCoin = 0)
    (h : deliverTx P o s b t = .ok out) (h0 : out.code = 0) (ha : applyChecked s out.plan = some s')
    (hok : AmountsOk s) : AmountsOk s' := by
  obtain ⟨price, rd, hr, hplan⟩ := deliver_base_gas P o s b t out h h0 hg (by omega) (by omega)
  rw [runData, ht] at hr
  obtain ⟨-, com, hcom, hf, rfl⟩ := edit_owner_funds P o s t price rd hr
  obtain ⟨rfl, hplan⟩ := hplan com _ _ hcom rfl
  rw [applyChecked_eq_applyAll s s' _ ha, hplan]
  rw [hg] at hf
  exact (((hok.debit hf).addRewards _).setCoinOwner _ _).setNonce _ _

theorem mint_funds (P : Params) (o : Oracle) (s : State) (t : TxIn) (price : Int) (rd : Ready)
    (h : runMintToken P o s t price = .ok (.ok rd)) :
    ∃ com ci, calcCommission P o s t.gasCoin price = .ok (.ok com) ∧ com.commission ≤ balanceOf s t.sender t.gasCoin ∧
      getCoin s (t.nat "d.Coin") = some ci ∧ ci.volume + t.int "d.Value" ≤ ci.maxSupply ∧ t.nat "d.Coin" ≠ 0 ∧
      ci.mintable = true ∧ ci.version = 0 ∧ symbolOwner s ci.symbol = some t.sender ∧
      rd = { payer := t.sender, coin := t.gasCoin, com := com, exec := fun _ => pure (
        [.mint t.sender (t.nat "d.Coin") (t.int "d.Value")], []) } := by
  simp only [runMintToken, guard_ready_iff, beq_iff_eq] at h
  obtain ⟨hc0, h⟩ := h
  split at h
  · cases h
  · next ci hci =>
    simp only [guard_ready_iff, withCom_ready_iff, ready_iff, Int.not_lt, gt_iff_lt, Bool.not_eq_true', Bool.not_eq_false,
      Bool.or_eq_true, bne_iff_ne, ne_eq, not_or, Decidable.not_not] at h
    obtain ⟨hmint, hmax, ⟨hver, hown⟩, com, hcom, hf, hrd⟩ := h
    exact ⟨com, ci, hcom, hf, hci, hmax, hc0, hmint, hver, hown, hrd⟩

/-- **C02 (MintToken, base-coin gas).** -/
theorem C02_partial_mint (P : Params) (o : Oracle) (s s' : State) (b : Nat) (t : TxIn) (out : Outcome)
    (ht : t.typ = 28) (hg : t.gasCoin = 0) (hv : 0 ≤ t.int "d.Value")
    (h : deliverTx P o s b t = .ok out) (h0 : out.code = 0) (ha : applyChecked s out.plan = some s')
    (hok : AmountsOk s) : AmountsOk s' := by
  obtain ⟨price, rd, hr, hplan⟩ := deliver_base_gas P o s b t out h h0 hg (by omega) (by omega)
  rw [runData, ht] at hr
  obtain ⟨com, ci, hcom, hf, hci, hmax, hcn, -, -, -, rfl⟩ := mint_funds P o s t price rd hr
  obtain ⟨rfl, hplan⟩ := hplan com _ _ hcom rfl
  rw [applyChecked_eq_applyAll s s' _ ha, hplan]
  simp only [planOf, List.flatMap_cons, List.flatMap_nil, Move.prims, if_neg hcn]
  rw [hg] at hf
  have := (hok.coins ci (findFirst_mem _ _ _ hci).1).1
  exact ((((hok.debit hf).addRewards _).addVolume fun _ e => by cases hci.symm.trans e; exact ⟨Int.add_nonneg this hv, hmax⟩).credit _ _ hv).setNonce _ _

theorem burn_funds (P : Params) (o : Oracle) (s : State) (t : TxIn) (price : Int) (rd : Ready)
    (h : runBurnToken P o s t price = .ok (.ok rd)) :
    ∃ com ci, calcCommission P o s t.gasCoin price = .ok (.ok com) ∧ com.commission ≤ balanceOf s t.sender t.gasCoin ∧
      getCoin s (t.nat "d.Coin") = some ci ∧ 1 ≤ ci.volume - t.int "d.Value" ∧ t.nat "d.Coin" ≠ 0 ∧
      t.addIfGas (t.nat "d.Coin") (t.int "d.Value") com.commission ≤ balanceOf s t.sender (t.nat "d.Coin") ∧ ci.burnable = true ∧
      rd = { payer := t.sender, coin := t.gasCoin, com := com, exec := fun _ => pure (
        [.mint t.sender (t.nat "d.Coin") (-(t.int "d.Value"))], []) } := by
  simp only [runBurnToken, guard_ready_iff, beq_iff_eq] at h
  obtain ⟨hc0, h⟩ := h
  split at h
  · cases h
  · next ci hci =>
    simp only [guard_ready_iff, withCom_ready_iff, ready_iff, Int.not_lt, Bool.not_eq_true', Bool.not_eq_false] at h
    obtain ⟨hburn, hmin, com, hcom, hf, hf2, hrd⟩ := h
    exact ⟨com, ci, hcom, hf, hci, hmin, hc0, hf2, hburn, hrd⟩

/-- **C02 (BurnToken, base-coin gas).** -/
theorem C02_partial_burn (P : Params) (o : Oracle) (s s' : State) (b : Nat) (t : TxIn) (out : Outcome)
    (ht : t.typ = 29) (hg : t.gasCoin = 0) (hv : 0 ≤ t.int "d.Value")
    (h : deliverTx P o s b t = .ok out) (h0 : out.code = 0) (ha : applyChecked s out.plan = some s')
    (hok : AmountsOk s) : AmountsOk s' := by
  obtain ⟨price, rd, hr, hplan⟩ := deliver_base_gas P o s b t out h h0 hg (by omega) (by omega)
  rw [runData, ht] at hr
  obtain ⟨com, ci, hcom, hf, hci, hmin, hcn, hf2, -, rfl⟩ := burn_funds P o s t price rd hr
  obtain ⟨rfl, hplan⟩ := hplan com _ _ hcom rfl
  rw [applyChecked_eq_applyAll s s' _ ha, hplan]
  simp only [planOf, List.flatMap_cons, List.flatMap_nil, Move.prims, if_neg hcn]
  have hne : ((0 : Nat) == t.nat "d.Coin") = false := by simpa using Ne.symm hcn
  simp only [TxIn.addIfGas, hg, hne, Bool.false_eq_true, if_false] at hf hf2
  have := hok.coins ci (findFirst_mem _ _ _ hci).1
  refine ((((hok.debit hf).addRewards _).addVolume fun _ e => by
    cases hci.symm.trans e; exact ⟨Int.le_trans (by decide) hmin, Int.le_trans (Int.sub_le_self _ hv) this.2.2⟩).debit ?_).setNonce _ _
  simpa only [apply_balance', Prim.balDelta', Ne.symm hcn, and_false, if_false, Int.add_zero] using hf2

/-! ### Multisend (13) -/

def itemPrims (S : Addr) (items : List (Coin × Addr × Int)) : List Prim :=
  items.flatMap (fun it => [Prim.addBal S it.1 (-it.2.2), Prim.addBal it.2.1 it.1 it.2.2])

theorem planOf_transfers (S : Addr) (items : List (Coin × Addr × Int)) :
    planOf (items.map (fun it => Move.transfer S it.2.1 it.1 it.2.2)) = itemPrims S items := by
  simp only [planOf, itemPrims, List.flatMap_map, Move.prims]

theorem sumFor_cons (it : Coin × Addr × Int) (items : List (Coin × Addr × Int)) (c : Coin) :
    sumFor (it :: items) c = (if it.1 = c then it.2.2 else 0) + sumFor items c := by
  simp only [sumFor, sumBy, beq_iff_eq]

theorem sumFor_nonneg (items : List (Coin × Addr × Int)) (hv : ∀ it ∈ items, 0 ≤ it.2.2) (c : Coin) : 0 ≤ sumFor items c := by
  induction items with
  | nil => exact Int.le_refl 0
  | cons it t ih =>
    rw [sumFor_cons]
    have := ih (fun x hx => hv x (List.mem_cons_of_mem _ hx))
    have := hv it (List.mem_cons_self ..)
    split <;> omega

theorem sumFor_zero (items : List (Coin × Addr × Int)) (c : Coin) (h : ∀ it ∈ items, it.1 ≠ c) : sumFor items c = 0 := by
  induction items with
  | nil => rfl
  | cons it t ih =>
    rw [sumFor_cons, if_neg (h it (List.mem_cons_self ..)), ih (fun x hx => h x (List.mem_cons_of_mem _ hx))]
    rfl

/-- Non-negative transfers by a sender who holds the total of every coin sent keep every amount in range. -/
theorem amounts_transfers (S : Addr) (items : List (Coin × Addr × Int)) (hv : ∀ it ∈ items, 0 ≤ it.2.2) :
    ∀ s, AmountsOk s → (∀ it ∈ items, sumFor items it.1 ≤ balanceOf s S it.1) → AmountsOk (applyAll s (itemPrims S items)) := by
  induction items with
  | nil => exact fun s hok _ => hok
  | cons it t ih =>
    intro s hok hs
    have hv' := fun x hx => hv x (List.mem_cons_of_mem _ hx)
    have h0 := hv it (List.mem_cons_self ..)
    have h1 := hs it (List.mem_cons_self ..)
    rw [sumFor_cons, if_pos rfl] at h1
    refine ih hv' _ ((hok.debit (Int.le_trans (Int.le_add_of_nonneg_right (sumFor_nonneg t hv' it.1)) h1)).credit _ _ h0) fun x hx => ?_
    have := hs x (List.mem_cons_of_mem _ hx)
    rw [sumFor_cons] at this
    simp only [apply_balance', Prim.balDelta', true_and]
    by_cases e : it.1 = x.1
    · -- the debit is covered by the total, the credit (if the sender pays himself) only adds
      simp only [e, and_true, if_true] at this ⊢
      refine Int.le_trans (Int.le_sub_left_of_add_le this) (Int.le_add_of_nonneg_right ?_)
      split
      · exact h0
      · exact Int.le_refl 0
    · simpa only [e, and_false, if_false, Int.zero_add, Int.add_zero] using this

theorem multisend_funds (P : Params) (o : Oracle) (s : State) (t : TxIn) (price : Int) (rd : Ready)
    (h : runMultisend P o s t price = .ok (.ok rd)) :
    ∃ com, calcCommission P o s t.gasCoin price = .ok (.ok com) ∧
      (∀ c, c = t.gasCoin ∨ (∃ it ∈ parseMultisend (t.str "d.List"), it.1 = c) →
        sumFor (parseMultisend (t.str "d.List")) c + (if c == t.gasCoin then com.commission else 0) ≤ balanceOf s t.sender c) ∧
      rd = { payer := t.sender, coin := t.gasCoin, com := com, exec := fun _ => pure (
        (parseMultisend (t.str "d.List")).map (fun it => Move.transfer t.sender it.2.1 it.1 it.2.2), []) } := by
  simp only [runMultisend, guard_ready_iff, withCom_ready_iff, ready_iff, List.any_eq_true, decide_eq_true_eq, not_exists, not_and,
    Int.not_lt, List.mem_eraseDups, List.mem_cons, List.mem_map] at h
  obtain ⟨-, -, com, hcom, hshort, hrd⟩ := h
  refine ⟨com, hcom, fun c hc => hshort c ?_, hrd⟩
  exact hc.imp_right fun ⟨it, hit, e⟩ => ⟨it, hit, e⟩

/-- **C02 (Multisend, base-coin gas).** -/
theorem C02_partial_multisend (P : Params) (o : Oracle) (s s' : State) (b : Nat) (t : TxIn) (out : Outcome)
    (ht : t.typ = 13) (hg : t.gasCoin = 0) (hv : ∀ it ∈ parseMultisend (t.str "d.List"), 0 ≤ it.2.2)
    (h : deliverTx P o s b t = .ok out) (h0 : out.code = 0) (ha : applyChecked s out.plan = some s')
    (hok : AmountsOk s) : AmountsOk s' := by
  obtain ⟨price, rd, hr, hplan⟩ := deliver_base_gas P o s b t out h h0 hg (by omega) (by omega)
  rw [runData, ht] at hr
  obtain ⟨com, hcom, hf, rfl⟩ := multisend_funds P o s t price rd hr
  obtain ⟨rfl, hplan⟩ := hplan com _ _ hcom rfl
  rw [applyChecked_eq_applyAll s s' _ ha, hplan, planOf_transfers]
  simp only [applyAll, List.foldl_cons, List.foldl_append, List.foldl_nil]
  have hfee := hf 0 (Or.inl hg.symm)
  rw [hg, if_pos (beq_self_eq_true 0)] at hfee
  refine (amounts_transfers _ _ hv _ ((hok.debit ?_).addRewards _) fun it hit => ?_).setNonce _ _
  · exact Int.le_trans (Int.le_add_of_nonneg_left (sumFor_nonneg _ hv 0)) hfee
  · have := hf it.1 (Or.inr ⟨it, hit, rfl⟩)
    simp only [apply_balance', Prim.balDelta', true_and, hg, beq_iff_eq] at this ⊢
    by_cases e : it.1 = 0
    · simp only [e, if_true, Int.add_zero] at this ⊢
      exact Int.le_sub_right_of_add_le this
    · simpa only [e, Ne.symm e, if_false, Int.add_zero] using this

/-- **C02 (partial): Send (1), Multisend (13), EditCoinOwner (17), MintToken (28), BurnToken (29)** accepted with the commission
    paid in the base coin preserve `AmountsOk` (the decoded amounts being non-negative, as RLP guarantees). -/
theorem C02_partial_1_13_17_28_29 (P : Params) (o : Oracle) (s s' : State) (b : Nat) (t : TxIn) (out : Outcome)
    (ht : t.typ = 1 ∨ t.typ = 13 ∨ t.typ = 17 ∨ t.typ = 28 ∨ t.typ = 29) (hg : t.gasCoin = 0)
    (hv : 0 ≤ t.int "d.Value") (hvs : ∀ it ∈ parseMultisend (t.str "d.List"), 0 ≤ it.2.2)
    (h : deliverTx P o s b t = .ok out) (h0 : out.code = 0) (ha : applyChecked s out.plan = some s')
    (hok : AmountsOk s) : AmountsOk s' := by
  rcases ht with e | e | e | e | e
  · exact C02_partial_send P o s s' b t out e hg hv h h0 ha hok
  · exact C02_partial_multisend P o s s' b t out e hg hvs h h0 ha hok
  · exact C02_partial_edit_owner P o s s' b t out e hg h h0 ha hok
  · exact C02_partial_mint P o s s' b t out e hg hv h h0 ha hok
  · exact C02_partial_burn P o s s' b t out e hg hv h h0 ha hok

/-! Non-vacuity (interpreter): the accepted Send of C01 starts and ends in states that satisfy the monitor. -/
def c02State : State :=
  { balances := [((1, 0), 1000000000000000000000), ((1, 7), 500)],
    coins := [{ id := 7, symbol := "TOK", version := 0, volume := 500, reserve := 0, crr := 0, maxSupply := 1000, owner := some 1, mintable := true, burnable := true }],
    commission := [("send", 10000000000000000), ("payload_byte", 2000000000000000), ("failed_tx", 10000000000000000)] }
def c02Tx : TxIn :=
  { dec := true, rawLen := 100, typ := 1, nonce := 1, chain := 2, gasPrice := 1, gasCoin := 0, sigType := 1, sigOk := true, sender := 1,
    f := [("d.Coin", "7"), ("d.To", "02"), ("d.Value", "200")] }

#guard amountsOk c02State &&
  (match deliverTx {} (fun _ => none) c02State 10200001 c02Tx with
   | .ok out => out.code == 0 && (match applyChecked c02State out.plan with | some s1 => amountsOk s1 | none => false)
   | .error _ => false)

end Minter
