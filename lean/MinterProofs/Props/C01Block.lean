import MinterProofs.BlockPlans
import MinterProofs.BlockRecalc
import MinterProofs.BlockBegin
import MinterProofs.Props.C01
import MinterProofs.Props.C18
/-
  C01 for `endBlock`, `blockRun` / `blockStep` and `runBlocks` of MinterModel/Block.lean: across a block every custom coin keeps
  volume = holdings and the base total moves by exactly what the node adds to its emission counter.
  The equations hold for EVERY state because the five places where the code of EndBlock can mint or burn outside the emission
  counter are carried as explicit terms (`EndDefect`); each step of `endBlock` is a `Books` fact, the steps compose by adding
  their deltas, and each term vanishes under the invariant that excludes it (`endDefect_zero_*`).
  Hypotheses: none on the oracle (conservation does not care what `saleReturn` answers), on `bipOf`, on the votes, evidence,
  transactions or tallies.  `0 < P.unbond` (a constant of the chain: 518400 / 531) is needed by `begin_conserves`.
-/
namespace Minter

theorem endTallyStep_books (s : State) (req : EndReq) : Books s (endTallyStep s req) (fun _ => 0) 0 0 :=
  ⟨(Books.refl s).coin, (Books.refl s).base, (Books.refl s).emission⟩

theorem endBlock_conserves (P : Params) (s s' : State) (req : EndReq) (out : EndOut)
    (h : endBlock P s req = .ok (s', out)) :
    (∀ c, c ≠ 0 → volumeOf s' c - holdings s' c = volumeOf s c - holdings s c + droppedOf c out.defect) ∧
    baseTotal s' - (baseTotal s + s.rewardsPool) = (s'.emission - s.emission) + out.defect.base := by
  -- the two `if`s are decided by `by_cases`: `split` is slow to check on a term of this size
  by_cases hP : P.period = 0
  · rw [endBlock, if_pos hP] at h; cases h
  rw [endBlock, if_neg hP] at h
  simp only [] at h
  generalize he : Rules.blockEmission s.emission req.cap s.reward s.safeReward = e at h
  have hA := accrueStep_books s req.signed e
  generalize accrueStep s req.signed e = s1 at h hA
  generalize (if expireDue P req.height = true then expiredOrders s1 (req.height - P.expire) else []) = expired at h
  split at h
  · cases h
  next s2 h2 =>
  generalize hpays : (if (req.height % P.period == 0) = true then
      payoutsOf s2 (if decide (s.emission < req.cap) = true then req.height else maxUint64) ↑P.period else []) = pays at h
  by_cases hneg : (pays.any fun x => decide (x.out.remainder < 0)) = true
  · rw [if_pos hneg] at h; cases h
  rw [if_neg hneg] at h
  split at h
  · cases h
  next s3 h3 =>
  split at h
  · cases h
  next s4 h4 =>
  have hB := (((hA.trans ((expirePlan_books _).books h2)).trans (payStep_books _ _ _ _ _ _ hpays h3)).trans
    ((he ▸ emitStep_books _ _ _ _).books h4)).trans (endTallyStep_books s4 req)
  generalize endTallyStep s4 req = s5 at h hB
  -- the last step: its deltas are the three defects of `updateValidators`, none when it does not run
  have hU : Books s5 s' (fun c => droppedOf c out.defect) (- droppedOf 0 out.defect - out.defect.goneNonPos - out.defect.carry) 0
      ∧ out.defect.overMint = e.toValidators + e.toZero - (e.emission - s.emission) ∧ out.defect.lost = lostOf pays := by
    split at h <;> cases h
    · exact ⟨valUpdate_books _ _ _ _, rfl, rfl⟩
    · exact ⟨Books.refl _, rfl, rfl⟩
  obtain ⟨hU, ho, hl⟩ := hU
  have hF := hB.trans hU
  refine ⟨fun c hc => (hF.coin c hc).trans (by simp only [Int.zero_add]), ?_⟩
  rw [hF.base, hF.emission, EndDefect.base, ho, hl]
  omega

/-! ## Transactions of a block -/

theorem deliverTxs_books (P : Params) (o : Oracle) (block : Nat) (txs : List TxIn) (s s' : State)
    (h : deliverTxs P o block s txs = .ok s') :
    (∀ c, c ≠ 0 → volumeOf s' c - holdings s' c = volumeOf s c - holdings s c) ∧
    baseTotalP s' = baseTotalP s ∧ s'.emission = s.emission := by
  induction txs generalizing s with
  | nil => cases h; exact ⟨fun _ _ => rfl, rfl, rfl⟩
  | cons t ts ih =>
    simp only [deliverTxs] at h
    split at h
    · cases h
    next out _ =>
    split at h
    · cases h
    next s1 ha =>
    obtain ⟨k1, k2⟩ := balanced_books s s1 _ (planOf_balanced out.moves) ha
    have k3 : s1.emission = s.emission := by
      rw [checked_emission _ _ _ ha, Outcome.plan, planOf_no_emission out.moves, Int.add_zero]
    obtain ⟨i1, i2, i3⟩ := ih s1 h
    exact ⟨fun c hc => (i1 c hc).trans (k1 c hc), i2.trans (by omega), i3.trans k3⟩

/-! ## One block -/

theorem C01_block_books (P : Params) (o : Oracle) (s s' : State) (b : BlockReq) (out : EndOut) (hu : 0 < P.unbond)
    (h : blockRun P o s b = .ok (s', out)) :
    (∀ c, c ≠ 0 → volumeOf s' c - holdings s' c = volumeOf s c - holdings s c + droppedOf c out.defect) ∧
    baseTotal s' - baseTotal s = (s'.emission - s.emission) + out.defect.base := by
  unfold blockRun at h
  split at h
  · cases h
  next sB evB hB =>
  split at h
  · cases h
  next sD hD =>
  obtain ⟨g1, g2⟩ := begin_conserves P o s sB b.beginReq b.grace evB hu hB
  obtain ⟨g3, g4⟩ := beginBlock_mint P o s sB b.beginReq b.grace evB hB
  obtain ⟨k1, k2, k3⟩ := deliverTxs_books P o _ _ _ _ hD
  obtain ⟨e1, e2⟩ := endBlock_conserves P sD s' b.endReq out h
  rw [show baseTotal sD + sD.rewardsPool = baseTotal sB + sB.rewardsPool from k2, g4, Int.add_zero, g2, k3, g3] at e2
  exact ⟨fun c hc => by rw [e1 c hc, k1 c hc, g1 c hc], e2⟩

theorem EndDefect.zero_of_isZero (d : EndDefect) (h : d.isZero = true) : d.base = 0 ∧ ∀ c, droppedOf c d = 0 := by
  simp only [EndDefect.isZero, Bool.and_eq_true, beq_iff_eq, List.all_eq_true] at h
  obtain ⟨⟨⟨⟨h1, h2⟩, h3⟩, h4⟩, h5⟩ := h
  have hd : ∀ c, droppedOf c d = 0 := fun c => dropped_value_zero c d.dropped h3
  refine ⟨?_, hd⟩
  simp only [EndDefect.base, hd 0, h1, h2, h4, h5]
  omega

theorem blockStep_eq (P : Params) (o : Oracle) (s s' : State) (b : BlockReq) (h : blockStep P o s b = .ok s') :
    ∃ out, blockRun P o s b = .ok (s', out) := by
  unfold blockStep at h
  split at h
  · cases h
  · next r hr => cases h; exact ⟨r.2, hr⟩

/-! ## Any number of blocks -/

theorem C01_run_books (P : Params) (o : Oracle) (bs : List BlockReq) (s s' : State) (ds : List EndDefect) (hu : 0 < P.unbond)
    (h : runBlocks P o s bs = .ok (s', ds)) :
    (∀ c, c ≠ 0 → volumeOf s' c - holdings s' c = volumeOf s c - holdings s c + sumBy (droppedOf c) ds) ∧
    baseTotal s' - baseTotal s = (s'.emission - s.emission) + sumBy EndDefect.base ds := by
  induction bs generalizing s ds with
  | nil => cases h; exact ⟨fun _ _ => (Int.add_zero _).symm, by rw [Int.sub_self, Int.sub_self]; rfl⟩
  | cons b t ih =>
    simp only [runBlocks] at h
    split at h
    · cases h
    next s1 out h1 =>
    split at h
    · cases h
    next s2 ds2 h2 =>
    cases h
    obtain ⟨b1, b2⟩ := C01_block_books P o s s1 b out hu h1
    obtain ⟨i1, i2⟩ := ih s1 ds2 h2
    refine ⟨fun c hc => ?_, ?_⟩
    · rw [i1 c hc, b1 c hc, sumBy, Int.add_assoc]
    · rw [sumBy]; omega

/-- C01 for any run of blocks whose EndBlocks report no defect.  `hc` at genesis is what `AppState.Verify` establishes coin by
    coin (`verified_volumes`, Props/C11.lean). -/
theorem C01_main (P : Params) (o : Oracle) (bs : List BlockReq) (s s' : State) (ds : List EndDefect) (hu : 0 < P.unbond)
    (h : runBlocks P o s bs = .ok (s', ds)) (hz : ∀ d ∈ ds, d.isZero = true) (hc : Conserved s) :
    Conserved s' ∧ baseTotal s' - baseTotal s = s'.emission - s.emission := by
  obtain ⟨r1, r2⟩ := C01_run_books P o bs s s' ds hu h
  have hb : sumBy EndDefect.base ds = 0 := sumBy_eq_zero (fun d hd => (d.zero_of_isZero (hz d hd)).1)
  have hd : ∀ c, sumBy (droppedOf c) ds = 0 := fun c => sumBy_eq_zero (fun d hd => (d.zero_of_isZero (hz d hd)).2 c)
  refine ⟨fun c hc0 => ?_, by rw [r2, hb, Int.add_zero]⟩
  have := r1 c hc0
  rw [hd c, hc c hc0] at this
  omega

theorem C01_block (P : Params) (o : Oracle) (s s' : State) (b : BlockReq) (out : EndOut) (hu : 0 < P.unbond)
    (h : blockRun P o s b = .ok (s', out)) (hz : out.defect.isZero = true) (hc : Conserved s) :
    Conserved s' ∧ baseTotal s' - baseTotal s = s'.emission - s.emission :=
  C01_main P o [b] s s' [out.defect] hu (by simp only [runBlocks, h]) (fun _ hd => List.mem_singleton.mp hd ▸ hz) hc

/-! ## When the defects vanish -/

/-- `overMint` is zero at the cap and whenever `reward ≤ safeReward` (C28 `reward_le_safeReward`). -/
theorem endDefect_zero_overMint (em cap rw sf : Int) (h : cap ≤ em ∨ rw ≤ sf) :
    (Rules.blockEmission em cap rw sf).toValidators + (Rules.blockEmission em cap rw sf).toZero
      - ((Rules.blockEmission em cap rw sf).emission - em) = 0 := by
  rw [overMint_eq]
  split
  · next hh => omega
  · rfl

theorem endDefect_zero_lost (s : State) (hpay : Nat) (period : Int)
    (hok : ∀ v ∈ s.validators, ∀ c ∈ s.candidates,
      PayOK (payInOf s hpay period (totalAccum s) (if totalAccum s > 0 then 0 else sumBy (fun v => v.totalBip) s.validators) v c)) :
    lostOf (payoutsOf s hpay period) = 0 :=
  sumBy_eq_zero fun x hx => by
    obtain ⟨hv, hc, e⟩ := mem_payoutsOf hx
    have hp := hok _ hv _ hc
    rw [e]
    exact (foldl_ok _ hp _ hp.bips _).1

theorem endDefect_zero_valUpdate (P : Params) (b : Coin → Int → Int) (height : Nat) (s : State)
    (hup : ∀ cd ∈ s.candidates, ∀ u ∈ cd.updates, 0 ≤ u.value)
    (hacc : ∀ v ∈ s.validators, 0 ≤ v.accum)
    (hvk : (s.validators.map (·.pubkey)).Nodup) (hck : (s.candidates.map (·.pubkey)).Nodup) :
    (∀ u ∈ (valUpdateStep P b height s).dropped, u.value = 0) ∧
    (valUpdateStep P b height s).goneNonPos = 0 ∧ (valUpdateStep P b height s).carry = 0 := by
  refine ⟨droppedAll_zero b s.candidates hup, goneNonPos_zero _ _ hacc, carry_zero _ _ hvk ?_⟩
  -- the selected candidates are a sub-list of a permutation of the kept recalculated candidates, which keep their keys
  have hmap : (recalcedCands b s.candidates).map (·.pubkey) = s.candidates.map (·.pubkey) := by
    simp [recalcedCands, recalcCand]
  have hk : ((keptCands s.validators (recalcedCands b s.candidates)).map (·.pubkey)).Nodup :=
    (hmap ▸ hck).sublist (List.filter_sublist.map _)
  exact (((sortStable_perm candLess _).map _).nodup_iff.mpr hk).sublist
    (((List.take_sublist _ _).trans List.filter_sublist).map _)

/-! ## Non-vacuity -/

def exBip : Int := 1000000000000000000000
/-- One validator (key 7, Tendermint address 70, accumulated 1000) whose candidate (id 1, commission 10 %, reward address 21)
    holds the owner's own stake (address 11, 2000 BIP) and one delegator's (address 12, 1000 BIP); reward 100, safe reward 120.
    The stale fee pool 77 of the previous block is reset by BeginBlock. -/
def exBlockState : State :=
  { validators := [{ pubkey := 7, totalBip := 3 * exBip, accum := 1000, absent := List.replicate 24 false, tmAddr := 70 }],
    candidates := [{ id := 1, pubkey := 7, owner := 11, reward := 21, control := 11, commission := 10, status := 2, jailedUntil := 0,
                     lastEditCommission := 0, totalBip := 3 * exBip,
                     stakes := [{ owner := 11, coin := 0, value := 2 * exBip, bip := 2 * exBip }, { owner := 12, coin := 0, value := exBip, bip := exBip }],
                     updates := [] }],
    balances := [((12, 0), 5)],
    reward := 100, safeReward := 120, emission := 1000000, rewardsPool := 77 }

/-- Height 10 200 012 is a payout block (period 12); the validator signed; no transactions. -/
def exPayoutBlock : BlockReq :=
  { beginReq := { height := 10200012, votes := [(70, true)] },
    endReq := { height := 10200012, signed := [70] } }

/-- Δ base total, Δ emission, "no defect", accumulated rewards, zero-address balance, total slashed; then the stakes
    (owner, value) of the candidate after the block. -/
def exBlockView (r : M (State × EndOut)) : List Int × List (Nat × Int) :=
  match r with
  | .ok (s', out) =>
    ([baseTotal s' - baseTotal exBlockState, s'.emission - exBlockState.emission, if out.defect.isZero then 1 else 0]
      ++ s'.validators.map (·.accum) ++ [Bag.get s'.balances (0, 0), s'.slashed],
     (s'.candidates.flatMap (·.stakes)).map (fun st => (st.owner, st.value)))
  | .error _ => ([], [])

example : Conserved exBlockState := by
  intro c hc
  have h0 : ¬(0 : Nat) = c := fun h => hc h.symm
  simp only [exBlockState, volumeOf, holdings, sumBy, Bag.sumIf, candHoldings, stakeOf, h0, if_false, decide_false]
  rfl

/-- The hypotheses of `C01_block` / `C01_main` are met by a payout block: the block runs, reports no defect, the pot 100 and
    the accumulated 1000 are paid out (10 % DAO, 10 % developers, 10 % commission of the rest, delegators 2 : 1) and merged into
    the stakes, 20 = 120 − 100 go to the zero address, the validator keeps its place with nothing accumulated,
    and the base total grows by exactly the 120 added to the emission counter. -/
theorem C01_block_example : exBlockView (blockRun {} (fun _ => none) exBlockState exPayoutBlock)
    = ([120, 120, 1, 0, 20, 0], [(11, 2 * exBip + 528), (12, exBip + 264), (daoAddress, 110), (devAddress, 110), (21, 88)]) := by
  decide +kernel

/-- The defect terms are not decoration: the same validator in an ordinary block with `reward` 150 above `safeReward` 120 —
    the base total grows by 150, the emission counter by 120, and EndBlock reports `overMint = 30`
    (`endBlock_conserves` holds with that term; `C01_block` does not apply). -/
def exOverState : State := { exBlockState with candidates := [], reward := 150, rewardsPool := 0 }

theorem C01_defect_example :
    (match endBlock {} exOverState { height := 10200013, signed := [70] } with
     | .ok (s', out) => [baseTotal s' - baseTotal exOverState, s'.emission - exOverState.emission, out.defect.overMint, out.defect.base]
     | .error _ => []) = [150, 120, 30, 30] := by
  decide +kernel

end Minter
