import MinterProofs.Begin
/-
  C16 (staked coins leave staking only on schedule), in two halves. The file has release first, then moves, then creation by
  punishment or removal and by transactions.
  Creation: the fund a successful Unbond / MoveStake / Lock transaction, a candidate removal or a byzantine punishment creates
  (`unbondFund`, `moveFund`, `lockFund`, `removalFunds`, `remainderFund`) is due exactly `block + period`, resp. at the Lock's
  due block. These functions model only the validations that matter here; stake sufficiency and the commission belong to the
  transaction model.
  Release: BeginBlock at height `h` touches the balances only through the funds stored under exactly `h`, keeps every other
  fund (up to the byzantine slash), and turns a move into an update on its target candidate, never into a balance.
-/
namespace Minter

/-! ### Release: BeginBlock -/

theorem creditAll_get (l : List Frozen) (b : Bag (Addr × Coin)) (k : Addr × Coin) :
    Bag.get (creditAll l b) k
      = Bag.get b k + sumBy (fun f => if f.moveTo = 0 ∧ (f.addr, f.coin) = k then f.value else 0) l := by
  induction l generalizing b with
  | nil => simp [creditAll, sumBy]
  | cons f t ih =>
    simp only [creditAll, sumBy, ih]
    by_cases h0 : f.moveTo = 0
    · simp only [h0, if_true, true_and, Bag.get_add]; omega
    · simp [h0]

/-- The moves stored under `h` whose target id is not the id of a candidate, re-frozen as unbonds due `h + unbond`
    (/repo 0ed8cf3: BeginBlock unbonds such a move instead of dereferencing the missing candidate). -/
def refrozenOf (u h : Nat) (ids : List Nat) (all : List Frozen) : List Frozen :=
  ((all.filter (dueAt h)).filter (targetMissing ids)).map (refreeze u h)

theorem refrozenOf_mem (u h : Nat) (ids : List Nat) (all : List Frozen) (g : Frozen) (hg : g ∈ refrozenOf u h ids all) :
    ∃ f ∈ all, f.height = h ∧ f.moveTo ≠ 0 ∧ ids.contains f.moveTo = false ∧ g = refreeze u h f := by
  obtain ⟨f, hf, rfl⟩ := List.mem_map.mp hg
  obtain ⟨hf1, hm⟩ := List.mem_filter.mp hf
  obtain ⟨hf2, hd⟩ := List.mem_filter.mp hf1
  simp only [targetMissing, Bool.and_eq_true, bne_iff_ne, Bool.not_eq_true'] at hm
  exact ⟨f, hf2, by simpa [dueAt] using hd, hm.1, hm.2, rfl⟩

/-- BeginBlock releases what is stored under its height in the frozen funds as the evidence loop leaves them (`sB`): the votes
    touch neither funds nor balances, the evidence loop no balance, and no phase the set of candidate ids. -/
theorem beginBlock_release {P : Params} {o : Oracle} {s s' : State} {r : BeginReq} {grace : Bool} {ev : List BEvent}
    (hu : 0 < P.unbond) (hr : beginBlock P o s r grace = .ok (s', ev)) :
    ∃ sA evA sB evB, absencePhase P r.height grace r.votes { s with rewardsPool := 0 } = .ok (sA, evA)
      ∧ byzPhase P o r.height r.byz sA = .ok (sB, evB) ∧ sA.frozen = s.frozen
      ∧ s'.frozen = sB.frozen.filter (fun f => !dueAt r.height f)
          ++ refrozenOf P.unbond r.height (s.candidates.map (·.id)) sB.frozen
      ∧ s'.balances = creditAll (sB.frozen.filter (dueAt r.height)) s.balances := by
  obtain ⟨sA, evA, sB, evB, evC, hA, hB, hC⟩ := beginBlock_phases hr
  obtain ⟨fA, iA⟩ := absencePhase_frame hA
  obtain ⟨bB, iB⟩ := byzPhase_frame hB
  obtain ⟨hf, hb, _⟩ := maturityPhase_effect hu hC
  refine ⟨sA, evA, sB, evB, hA, hB, fA.frozen, ?_, ?_⟩
  · rw [hf, iB, iA]; rfl
  · rw [hb, bB, fA.balances]

/-- `all` is what the evidence loop leaves: the old funds, each cut once per punishment matching it (`slashBy` over the
    candidate ids punished in this block), then the remainder funds of the punished stakes. Of these the funds stored under
    `h` go, the non-moves among them to the balances, in order; a move among them whose target is gone comes back as an unbond
    due `h + unbond`. `hu`: the real period is 518400, on the testnet 531 (`GetUnbondPeriodWithChain`). -/
theorem frozen_released_only_when_due (P : Params) (o : Oracle) (s s' : State) (r : BeginReq) (grace : Bool) (ev : List BEvent)
    (hu : 0 < P.unbond) (hr : beginBlock P o s r grace = .ok (s', ev)) :
    ∃ sA evA new, absencePhase P r.height grace r.votes { s with rewardsPool := 0 } = .ok (sA, evA) ∧
      let ids := byzPunishedIds P o r.height r.byz sA
      let all := s.frozen.map (slashBy r.height (r.height + P.unbond) ids) ++ new
      s'.frozen = all.filter (fun f => !dueAt r.height f) ++ refrozenOf P.unbond r.height (s.candidates.map (·.id)) all
      ∧ s'.balances = creditAll (all.filter (dueAt r.height)) s.balances
      ∧ (∀ f ∈ new, f.height = r.height + P.unbond ∧ f.moveTo = 0) := by
  obtain ⟨sA, evA, sB, evB, hA, hB, hfA, hf, hb⟩ := beginBlock_release hu hr
  obtain ⟨new, hfr, hnew⟩ := byzPhase_frozen hB
  rw [hfr, hfA] at hf hb
  exact ⟨sA, evA, new, hA, hf, hb, hnew⟩

/-- "Nothing returns such coins earlier", and nothing stays longer: no fund stored under `h` is left, and a fund not due at
    this height survives with everything but its value, which only a punishment matching it lowers. -/
theorem not_due_survives (P : Params) (o : Oracle) (s s' : State) (r : BeginReq) (grace : Bool) (ev : List BEvent)
    (hu : 0 < P.unbond) (hr : beginBlock P o s r grace = .ok (s', ev)) :
    (∀ f ∈ s'.frozen, f.height ≠ r.height) ∧
    ∃ sA evA, absencePhase P r.height grace r.votes { s with rewardsPool := 0 } = .ok (sA, evA) ∧
    ∀ f ∈ s.frozen, f.height ≠ r.height →
      ∃ f' ∈ s'.frozen, f'.height = f.height ∧ f'.addr = f.addr ∧ f'.candKey = f.candKey ∧ f'.candId = f.candId
        ∧ f'.coin = f.coin ∧ f'.moveTo = f.moveTo
        ∧ (0 ≤ f.value → 0 ≤ f'.value ∧ f'.value ≤ f.value)
        ∧ ((∀ cid ∈ byzPunishedIds P o r.height r.byz sA, inWindow r.height (r.height + P.unbond) cid f = false) → f' = f) := by
  obtain ⟨sA, evA, new, hA, hfr, _, _⟩ := frozen_released_only_when_due P o s s' r grace ev hu hr
  constructor
  · -- the phase ends by deleting what is stored under the height
    obtain ⟨_, _, _, _, _, _, _, hC⟩ := beginBlock_phases hr
    obtain ⟨s1, _, rfl⟩ := maturityPhase_inv hC
    exact fun f hf => by simpa [dueAt] using (List.mem_filter.mp hf).2
  · refine ⟨sA, evA, hA, fun f hf hd => ?_⟩
    generalize byzPunishedIds P o r.height r.byz sA = ids at hfr
    obtain ⟨v, hv⟩ := slashBy_eq r.height (r.height + P.unbond) ids f
    refine ⟨{ f with value := v }, ?_, rfl, rfl, rfl, rfl, rfl, rfl, hv ▸ slashBy_value_le _ _ ids f, hv ▸ slashBy_untouched _ _ ids f⟩
    rw [hfr, ← hv]
    refine List.mem_append_left _ (List.mem_filter.mpr ⟨List.mem_append_left _ (List.mem_map_of_mem hf), ?_⟩)
    rw [hv]; simpa [dueAt] using hd

theorem no_evidence_funds_untouched (P : Params) (o : Oracle) (s s' : State) (r : BeginReq) (grace : Bool) (ev : List BEvent)
    (hu : 0 < P.unbond) (hr : beginBlock P o s r grace = .ok (s', ev)) (hb : r.byz = []) :
    s'.frozen = s.frozen.filter (fun f => !dueAt r.height f) ++ refrozenOf P.unbond r.height (s.candidates.map (·.id)) s.frozen
    ∧ s'.balances = creditAll (s.frozen.filter (dueAt r.height)) s.balances := by
  obtain ⟨sA, evA, sB, evB, _, hB, hfA, hf, hbal⟩ := beginBlock_release hu hr
  rw [hb] at hB
  cases hB
  rw [hfA] at hf hbal
  exact ⟨hf, hbal⟩

/-- `due`: the funds stored under `h` after the evidence loop. Each is an old fund up to its value (`g ∈ s.frozen`); the other
    alternative, a remainder fund of this block, is due `h + unbond` and so cannot be among them
    (`balance_unchanged_without_due_fund` uses this). -/
theorem balances_only_matured (P : Params) (o : Oracle) (s s' : State) (r : BeginReq) (grace : Bool) (ev : List BEvent)
    (hu : 0 < P.unbond) (hr : beginBlock P o s r grace = .ok (s', ev)) :
    ∃ due : List Frozen, (∀ f ∈ due, f.height = r.height ∧ ∃ g, (g ∈ s.frozen ∨ g.height = r.height + P.unbond) ∧ g.height = f.height
                            ∧ g.addr = f.addr ∧ g.coin = f.coin ∧ g.moveTo = f.moveTo)
      ∧ ∀ k, Bag.get s'.balances k
          = Bag.get s.balances k + sumBy (fun f => if f.moveTo = 0 ∧ (f.addr, f.coin) = k then f.value else 0) due := by
  obtain ⟨sA, evA, new, hA, hfr, hb, hnew⟩ := frozen_released_only_when_due P o s s' r grace ev hu hr
  refine ⟨_, ?_, fun k => by rw [hb, creditAll_get]⟩
  intro f hf
  obtain ⟨hmem, hdue⟩ := List.mem_filter.mp hf
  refine ⟨by simpa [dueAt] using hdue, ?_⟩
  rcases List.mem_append.mp hmem with h1 | h1
  · obtain ⟨g, hg, rfl⟩ := List.mem_map.mp h1
    obtain ⟨v, hv⟩ := slashBy_eq r.height (r.height + P.unbond) (byzPunishedIds P o r.height r.byz sA) g
    rw [hv]
    exact ⟨g, Or.inl hg, rfl, rfl, rfl, rfl⟩
  · exact ⟨f, Or.inr (hnew f h1).1, rfl, rfl, rfl, rfl⟩

theorem balance_unchanged_without_due_fund (P : Params) (o : Oracle) (s s' : State) (r : BeginReq) (grace : Bool) (ev : List BEvent)
    (hr : beginBlock P o s r grace = .ok (s', ev)) (hu : 0 < P.unbond) (k : Addr × Coin)
    (hk : ∀ f ∈ s.frozen, f.height = r.height → f.moveTo = 0 → (f.addr, f.coin) ≠ k) :
    Bag.get s'.balances k = Bag.get s.balances k := by
  obtain ⟨due, hdue, hget⟩ := balances_only_matured P o s s' r grace ev hu hr
  rw [hget k, sumBy_eq_zero, Int.add_zero]
  intro f hf
  obtain ⟨hh, g, hg, g1, g2, g3, g4⟩ := hdue f hf
  rcases hg with hg | hg
  · refine if_neg (fun hm => ?_)
    exact hk g hg (g1.trans hh) (g4.trans hm.1) (by rw [g2, g3]; exact hm.2)
  · omega

/-! ### Moves -/

/-- The second alternative is /repo 0ed8cf3: the target is gone and the coins are re-frozen as an unbond, so they reach the
    balance only one unbond period later, as any coins leaving a stake. -/
theorem move_never_to_balance (u h : Nat) (f : Frozen) (s s' : State) (e : List BEvent) (hm : f.moveTo ≠ 0)
    (hr : matureOne u h f s = .ok (s', e)) :
    s'.balances = s.balances
    ∧ ((∃ c, findFirst (candById f.moveTo) s.candidates = some c
          ∧ findFirst (candById f.moveTo) s'.candidates
              = some { c with updates := c.updates ++ [{ owner := f.addr, coin := f.coin, value := f.value, bip := 0 }] }
          ∧ s'.frozen = s.frozen)
       ∨ (findFirst (candById f.moveTo) s.candidates = none ∧ s'.candidates = s.candidates
          ∧ s'.frozen = s.frozen ++ [{ f with height := h + u, moveTo := 0 }])) := by
  rcases matureOne_cases hr with ⟨h0, _⟩ | ⟨_, hc, rfl⟩ | ⟨_, c, hc, rfl⟩
  · exact absurd h0 hm
  · exact ⟨rfl, .inr ⟨hc, rfl, rfl⟩⟩
  · exact ⟨rfl, .inl ⟨c, hc, findFirst_updFirst_some hc (fun _ => rfl), rfl⟩⟩

theorem unbond_to_balance (u h : Nat) (f : Frozen) (s s' : State) (e : List BEvent) (hm : f.moveTo = 0)
    (hr : matureOne u h f s = .ok (s', e)) :
    s'.balances = Bag.add s.balances (f.addr, f.coin) f.value ∧ s'.candidates = s.candidates ∧ s'.frozen = s.frozen := by
  rcases matureOne_cases hr with ⟨_, rfl⟩ | ⟨h0, _⟩ | ⟨h0, _⟩
  · exact ⟨rfl, rfl, rfl⟩
  · exact absurd hm h0
  · exact absurd hm h0

/-- F9, /repo 0ed8cf3: BeginBlock does not dereference the missing candidate but re-freezes the coins as an unbond. -/
theorem move_to_missing_target_unbonds (u h : Nat) (f : Frozen) (s : State) (hm : f.moveTo ≠ 0)
    (hc : findFirst (candById f.moveTo) s.candidates = none) :
    ∃ g, matureOne u h f s = .ok ({ s with frozen := s.frozen ++ [g] }, [])
      ∧ g.height = h + u ∧ g.moveTo = 0 ∧ g.addr = f.addr ∧ g.coin = f.coin ∧ g.value = f.value
      ∧ g.candKey = f.candKey ∧ g.candId = f.candId :=
  ⟨refreeze u h f, by simp only [matureOne, hm, if_false, hc], rfl, rfl, rfl, rfl, rfl, rfl, rfl⟩

theorem updates_grow {u h : Nat} {l : List Frozen} {s s' : State} {ev : List BEvent} (hr : matureAll u h l s = .ok (s', ev))
    {id : Nat} {c : Candidate} (hc : findFirst (candById id) s.candidates = some c) :
    ∃ c1, findFirst (candById id) s'.candidates = some c1 ∧ ∀ x ∈ c.updates, x ∈ c1.updates := by
  refine matureAll_lift (R := fun s s' => ∀ c, findFirst (candById id) s.candidates = some c →
      ∃ c1, findFirst (candById id) s'.candidates = some c1 ∧ ∀ x ∈ c.updates, x ∈ c1.updates)
    (fun _ c hc => ⟨c, hc, fun _ hx => hx⟩) (fun r1 r2 c hc => ?_) (fun g _ s _ _ h1 c hc => ?_) hr c hc
  · obtain ⟨c1, hc1, hs1⟩ := r1 c hc
    obtain ⟨c2, hc2, hs2⟩ := r2 c1 hc1
    exact ⟨c2, hc2, fun x hx => hs2 x (hs1 x hx)⟩
  · rcases matureOne_cases h1 with ⟨_, rfl⟩ | ⟨_, _, rfl⟩ | ⟨_, cg, _, rfl⟩
    · exact ⟨c, hc, fun _ hx => hx⟩
    · exact ⟨c, hc, fun _ hx => hx⟩
    · rcases findFirst_updFirst_or (candById id) (candById g.moveTo) (addUpdate g) s.candidates (fun _ => rfl) with e | e
      · exact ⟨c, e.trans hc, fun _ hx => hx⟩
      · exact ⟨addUpdate g c, e.trans (congrArg _ hc), fun _ hx => List.mem_append_left _ hx⟩

theorem moves_reach_target (u h : Nat) (l : List Frozen) (s s' : State) (ev : List BEvent) (hr : matureAll u h l s = .ok (s', ev)) :
    ∀ f ∈ l, f.moveTo ≠ 0 →
      (∃ c', findFirst (candById f.moveTo) s'.candidates = some c'
        ∧ ({ owner := f.addr, coin := f.coin, value := f.value, bip := 0 } : Stake) ∈ c'.updates)
      ∨ (findFirst (candById f.moveTo) s'.candidates = none ∧ ({ f with height := h + u, moveTo := 0 } : Frozen) ∈ s'.frozen) := by
  induction l generalizing s ev with
  | nil => intro f hf; cases hf
  | cons g t ih =>
    obtain ⟨s1, e1, e2, h1, h2, rfl⟩ := seq_ok hr
    intro f hf hm
    rcases List.mem_cons.mp hf with rfl | hf
    · obtain ⟨_, hcase⟩ := move_never_to_balance u h f s s1 e1 hm h1
      obtain ⟨_, hfz, _, fr⟩ := matureAll_effect h2
      rcases hcase with ⟨c, _, hc1, _⟩ | ⟨hnone, hcd, hf1⟩
      · obtain ⟨cb, hcb, hsub⟩ := updates_grow h2 hc1
        exact .inl ⟨cb, hcb, hsub _ (by simp)⟩
      · refine .inr ⟨?_, ?_⟩
        · -- the set of candidate ids never changes during maturity
          exact Option.not_isSome_iff_eq_none.mp
            (by rw [← candIds_contains, fr.ids, hcd, candIds_contains, hnone]; simp)
        · rw [hfz, hf1]; simp
    · exact ih s1 e2 h2 f hf hm

/-! ### Leaving a stake by punishment or removal -/

theorem leave_creates_frozen (P : Params) (o : Oracle) (h a : Nat) (s s' : State) (ev : List BEvent)
    (v : Validator) (c : Candidate) (ht : byzTarget a s = some (v, c)) (hr : byzStep P o h a s = .ok (s', ev)) :
    s'.frozen = s.frozen.map (slashItem h (h + P.unbond) c.id)
        ++ c.stakes.map (fun st => { height := h + P.unbond, addr := st.owner, candKey := some c.pubkey, candId := c.id,
                                      coin := st.coin, value := st.value * 95 / 100, moveTo := 0 }) := by
  rcases byzStep_cases hr with ⟨h0, _⟩ | ⟨_, _, _, _, _, ht', _, _, rfl⟩
  · rw [ht] at h0; cases h0
  · cases ht.symm.trans ht'; rfl

theorem removal_funds_due (u h : Nat) (c : Candidate) :
    (∀ f ∈ removalFunds u h c, f.height = h + u ∧ f.moveTo = 0 ∧ f.candId = c.id)
    ∧ (removalFunds u h c).map (fun f => (f.addr, f.coin, f.value)) = (c.stakes ++ c.updates).map (fun st => (st.owner, st.coin, st.value)) := by
  constructor
  · intro f hf
    obtain ⟨st, _, rfl⟩ := List.mem_map.mp hf
    exact ⟨rfl, rfl, rfl⟩
  · simp [removalFunds, List.map_map, Function.comp_def]

/-! ### Creation by transactions -/

theorem unbond_due (P : Params) (s : State) (sender : Addr) (pk : PubKey) (coin : Coin) (value : Int) (block : Nat) (f : Frozen)
    (h : unbondFund P s sender pk coin value block = .ok f) :
    f.height = block + P.unbond ∧ f.addr = sender ∧ f.coin = coin ∧ f.value = value ∧ f.moveTo = 0 ∧ f.candKey = some pk := by
  unfold unbondFund at h
  split at h
  · cases h
  · split at h
    · cases h
    · cases h; exact ⟨rfl, rfl, rfl, rfl, rfl, rfl⟩

theorem locked_cannot_unbond (P : Params) (s : State) (sender : Addr) (pk : PubKey) (coin : Coin) (value : Int) (block : Nat)
    (h : block < lockStakeUntil s sender) : unbondFund P s sender pk coin value block = .error 416 := by
  simp [unbondFund, h]

theorem move_due_and_target_exists (P : Params) (s : State) (sender : Addr) (fromPk toPk : PubKey) (coin : Coin) (value : Int)
    (block : Nat) (f : Frozen) (h : moveFund P s sender fromPk toPk coin value block = .ok f) :
    f.height = block + P.move ∧ f.addr = sender ∧ f.coin = coin ∧ f.value = value ∧ f.candKey = some fromPk
    ∧ ∃ c, findFirst (candByPub toPk) s.candidates = some c ∧ c.pubkey = toPk ∧ f.moveTo = c.id := by
  unfold moveFund at h
  split at h
  · cases h
  · split at h
    · cases h
    · next c hc =>
      split at h
      · cases h
      · cases h
        exact ⟨rfl, rfl, rfl, rfl, rfl, c, hc, by simpa [candByPub] using findFirst_some _ _ _ hc, rfl⟩

theorem move_to_unknown_rejected (P : Params) (s : State) (sender : Addr) (fromPk toPk : PubKey) (coin : Coin) (value : Int)
    (block : Nat) (hne : fromPk ≠ toPk) (hc : beginCandByKey s toPk = none) :
    moveFund P s sender fromPk toPk coin value block = .error 403 := by
  simp [moveFund, hne, hc]

theorem lock_due (s : State) (sender : Addr) (due : Nat) (coin : Coin) (value : Int) (block : Nat) (f : Frozen)
    (h : lockFund s sender due coin value block = .ok f) :
    f.height = due ∧ block < due ∧ f.addr = sender ∧ f.coin = coin ∧ f.value = value ∧ f.moveTo = 0 ∧ f.candId = 0 := by
  unfold lockFund at h
  split at h
  · cases h
  · next hd =>
    split at h
    · cases h
    · cases h; exact ⟨rfl, by omega, rfl, rfl, rfl, rfl, rfl⟩

theorem due_fund_is_paid (P : Params) (o : Oracle) (s s' : State) (r : BeginReq) (grace : Bool) (ev : List BEvent)
    (hu : 0 < P.unbond) (hr : beginBlock P o s r grace = .ok (s', ev)) (hb : r.byz = []) :
    s'.balances = creditAll (s.frozen.filter (dueAt r.height)) s.balances
    ∧ s'.frozen = s.frozen.filter (fun f => !dueAt r.height f) ++ refrozenOf P.unbond r.height (s.candidates.map (·.id)) s.frozen :=
  (no_evidence_funds_untouched P o s s' r grace ev hu hr hb).symm

/-! Non-vacuity: BeginBlock on a state with three funds due at 100 (an unbond, a move, a lock) and one due at 101, evaluated. -/
private def candEx (id pk : Nat) : Candidate :=
  { id := id, pubkey := pk, owner := 1, reward := 1, control := 2, commission := 10, status := 2, jailedUntil := 0,
    lastEditCommission := 0, totalBip := 100, stakes := [], updates := [] }
private def sFr : State :=
  { candidates := [candEx 1 7, candEx 2 8], lockStake := [(21, 500)],
    coins := [{ id := 5, symbol := "X", version := 0, volume := 1000, reserve := 1000, crr := 100, maxSupply := 10000, owner := none,
                mintable := false, burnable := false }],
    frozen := [{ height := 100, addr := 21, candKey := some 7, candId := 1, coin := 0, value := 40, moveTo := 0 },
               { height := 100, addr := 22, candKey := some 7, candId := 1, coin := 5, value := 50, moveTo := 2 },
               { height := 100, addr := 23, candKey := none, candId := 0, coin := 5, value := 60, moveTo := 0 },
               { height := 101, addr := 21, candKey := some 7, candId := 1, coin := 0, value := 70, moveTo := 0 }] }
private def noOracle : Oracle := fun _ => none
private def viewBal (r : M (State × List BEvent)) : List ((Nat × Nat) × Int) × List Nat :=
  match r with
  | .ok (s', _) => (s'.balances, s'.frozen.map (·.height))
  | .error _ => ([], [])
private def viewUpd (r : M (State × List BEvent)) : List (List (Nat × Nat × Int × Int)) :=
  match r with
  | .ok (s', _) => s'.candidates.map (fun c => c.updates.map (fun u => (u.owner, u.coin, u.value, u.bip)))
  | .error _ => []

-- at height 100: the unbond and the lock are paid, the move becomes an update of candidate 2, the fund due at 101 stays
example : viewBal (beginBlock {} noOracle sFr { height := 100 } false) = ([((21, 0), 40), ((23, 5), 60)], [101]) := by decide
example : viewUpd (beginBlock {} noOracle sFr { height := 100 } false) = [[], [(22, 5, 50, 0)]] := by decide
-- a move towards candidate id 9, which does not exist (any more), is unbonded: due 100 + 531, not a move, no balance
private def sGone : State :=
  { sFr with frozen := [{ height := 100, addr := 22, candKey := some 7, candId := 1, coin := 5, value := 50, moveTo := 9 }] }
private def viewFr (r : M (State × List BEvent)) : List (Nat × Nat × Nat × Int × Nat) :=
  match r with
  | .ok (s', _) => s'.frozen.map (fun f => (f.height, f.addr, f.coin, f.value, f.moveTo))
  | .error _ => []
example : viewFr (beginBlock {} noOracle sGone { height := 100 } false) = [(631, 22, 5, 50, 0)] := by decide
example : viewBal (beginBlock {} noOracle sGone { height := 100 } false) = ([], [631]) := by decide
example : viewUpd (beginBlock {} noOracle sGone { height := 100 } false) = [[], []] := by decide
-- at height 99 nothing happens
example : viewBal (beginBlock {} noOracle sFr { height := 99 } false) = ([], [100, 100, 100, 101]) := by decide
-- transactions: an unbond at block 10 is due at 541, a move at 187 towards candidate id 2, a lock exactly at its due block
example : (unbondFund {} sFr 22 7 0 5 10).toOption.map (fun f => (f.height, f.moveTo)) = some (541, 0) := by decide
example : (moveFund {} sFr 22 7 8 0 5 10).toOption.map (fun f => (f.height, f.moveTo)) = some (187, 2) := by decide
example : (lockFund sFr 22 77 5 9 10).toOption.map (fun f => (f.height, f.moveTo)) = some (77, 0) := by decide
private def errOf (x : Except Nat Frozen) : Option Nat := match x with | .error c => some c | .ok _ => none
example : errOf (unbondFund {} sFr 21 7 0 5 499) = some 416 := by decide
example : (unbondFund {} sFr 21 7 0 5 500).toOption.map (·.height) = some 1031 := by decide
example : errOf (moveFund {} sFr 22 7 9 0 5 10) = some 403 := by decide
example : errOf (lockFund sFr 22 10 5 9 10) = some 123 := by decide

end Minter
