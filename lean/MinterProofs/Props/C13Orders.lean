import MinterProofs.OrdersLemmas
/-
  C13 with limit orders: every pool trade, with or without limit-order fills, leaves the product of the two reserves no
  smaller than before and never pays out more than the pool holds — for ANY order book (positive volumes) and ANY
  answers of the float oracle `calculateAddAmountsForPrice`.

  `SellWithOrders` / `BuyWithOrders` apply to the reserves, without any further check, the aggregate of the walk
  (`CalcDiffPool`).  This aggregate is the closed form
      r0' = r0 + (input spent) − Σ fills.buy          r1' = r1 − (output obtained) + Σ fills.sell
  and it dominates the reserves of the virtual pair at the end of the walk, whose product only grows:
  curve steps are validated by `checkSwap` (`checkSwap_sound`), a fully consumed order adds both commissions
  (`orderStep_K`), a partial fill adds its commissions and the rounding slack.
-/
namespace Minter.Lob
open Minter

/-- Reserves that dominate positive ones with product at least `k` are positive with product at least `k`.  It is how a
    walk ends (`Grows`): what is written dominates the virtual reserves `(r0', r1')` reached so far. -/
theorem prod_le_of_le {k r0' r1' R0 R1 : Int} (h0 : 0 < r0') (h1 : 0 < r1') (hk : k ≤ r0' * r1')
    (e0 : r0' ≤ R0) (e1 : r1' ≤ R1) : 0 < R0 ∧ 0 < R1 ∧ k ≤ R0 * R1 :=
  ⟨by omega, by omega, hk.trans (mul_le_mul e0 e1 h1.le (by omega))⟩

/-- An order consumed completely changes the reserves by its two commissions only (the recursive call of the loops). -/
theorem orderStep_K (r0 r1 : Int) (o : Order) (h0 : 0 < r0) (h1 : 0 < r1) (hb : 0 ≤ o.wantBuy) (hs : 0 ≤ o.wantSell) :
    0 < r0 + com1000 o.wantBuy ∧ 0 < r1 + com1000 o.wantSell ∧
    r0 * r1 ≤ (r0 + com1000 o.wantBuy) * (r1 + com1000 o.wantSell) := by
  have hcb := com1000_bounds _ hb
  have hcs := com1000_bounds _ hs
  exact prod_le_of_le h0 h1 le_rfl (by omega) (by omega)

theorem curveStep_K (r0 r1 a0 a1 : Int) (h0 : 0 < r0) (h1 : 0 < r1) (ha : 0 ≤ a0)
    (h : checkSwap r0 r1 a0 a1 = none) :
    0 < a1 ∧ 0 < r1 - a1 ∧ r0 * r1 ≤ (r0 + a0) * (r1 - a1) := by
  obtain ⟨hpos, hle, hk⟩ := checkSwap_sound r0 r1 a0 a1 h0 h1 h
  -- the whole reserve cannot go: the fee-adjusted product would be 0
  have hne : r1 - a1 ≠ 0 := fun he => by
    rw [he] at hk
    have : 0 < r0 * r1 * 1000000 := by positivity
    omega
  exact ⟨hpos, by omega, plainK_of_feeK ha (by omega) hk⟩

theorem walkToPrice_move (O : Oracle) (r0 r1 : Int) (o : Order) (a0 a1 : Int)
    (h : walkToPrice O r0 r1 o = .move a0 a1) : 0 < a0 := by
  unfold walkToPrice at h
  split_ifs at h
  split at h
  · cases h
  · split_ifs at h with hpos
    split at h
    · cases h
    · cases h
      omega

theorem preSell_go (O : Oracle) (r0 r1 rest : Int) (o : Order) (r0' r1' rest' add : Int)
    (h0 : 0 < r0) (h1 : 0 < r1) (hr : 0 ≤ rest)
    (h : preSell O r0 r1 rest o = .go r0' r1' rest' add) :
    0 < r0' ∧ 0 < r1' ∧ 0 ≤ rest' ∧ 0 ≤ add ∧ r0' + rest' = r0 + rest ∧ r1' + add = r1 ∧ r0 * r1 ≤ r0' * r1' := by
  unfold preSell at h
  split at h
  · cases h
  · cases h
    exact ⟨h0, h1, hr, le_rfl, rfl, by omega, le_rfl⟩
  · next a0 a1 hw =>
    split_ifs at h
    split at h
    · cases h
    · next hc =>
      have ha0 := walkToPrice_move O r0 r1 o a0 a1 hw
      obtain ⟨hp, hq, hk⟩ := curveStep_K r0 r1 a0 a1 h0 h1 ha0.le hc
      cases h
      exact ⟨by omega, hq, by omega, by omega, by omega, by omega, hk⟩

theorem preBuy_go (O : Oracle) (r0 r1 rest : Int) (o : Order) (r0' r1' rest' add : Int)
    (h0 : 0 < r0) (h1 : 0 < r1) (hr : 0 ≤ rest)
    (h : preBuy O r0 r1 rest o = .go r0' r1' rest' add) :
    0 < r0' ∧ 0 < r1' ∧ 0 ≤ rest' ∧ 0 ≤ add ∧ r0' = r0 + add ∧ r1' - rest' = r1 - rest ∧ r0 * r1 ≤ r0' * r1' := by
  unfold preBuy at h
  split at h
  · cases h
  · cases h
    exact ⟨h0, h1, hr, le_rfl, by omega, rfl, le_rfl⟩
  · next a0 a1 hw =>
    split_ifs at h
    split at h
    · cases h
    · next hc =>
      have ha0 := walkToPrice_move O r0 r1 o a0 a1 hw
      obtain ⟨hp, hq, hk⟩ := curveStep_K r0 r1 a0 a1 h0 h1 ha0.le hc
      cases h
      exact ⟨by omega, hq, by omega, by omega, rfl, by omega, hk⟩

/-- The reserves `SellWithOrders` / `BuyWithOrders` write when the taker pays `ain` and receives `aout` through the fills
    `fs` (the closed form of `CalcDiffPool`) are positive and their product is at least `r0·r1`. -/
def Grows (r0 r1 ain aout : Int) (fs : List Fill) : Prop :=
  0 < r0 + ain - sumBuy fs ∧ 0 < r1 - aout + sumSell fs ∧
  r0 * r1 ≤ (r0 + ain - sumBuy fs) * (r1 - aout + sumSell fs)

/-- The walk goes on from the virtual reserves `(r0', r1')` after a fill of `b` for `s`. -/
theorem Grows.cons {r0 r1 ain aout r0' r1' ain' aout' b s : Int} {i w : Nat} {fs : List Fill}
    (h : Grows r0' r1' ain' aout' fs) (hk : r0 * r1 ≤ r0' * r1') (e0 : r0 + ain - b = r0' + ain')
    (e1 : r1 - aout + s = r1' - aout') : Grows r0 r1 ain aout (⟨i, b, s, w⟩ :: fs) := by
  unfold Grows at *
  rw [sumBuy_cons, sumSell_cons, ← sub_sub, e0, ← add_assoc, e1]
  exact ⟨h.1, h.2.1, hk.trans h.2.2⟩

theorem finalSell_spec (bk : List Order) (r0 r1 rest out : Int) (fs : List Fill) (h0 : 0 < r0) (h1 : 0 < r1)
    (hr : 0 ≤ rest) (h : finalSell r0 r1 rest = .ok out fs) :
    Consumed bk fs ∧ 0 ≤ out ∧ Grows r0 r1 rest out fs := by
  unfold finalSell at h
  split at h
  · cases h
    exact ⟨.none bk, le_rfl, prod_le_of_le h0 h1 le_rfl (by simp; omega) (by simp)⟩
  · next d hd =>
    split at h
    · next hc =>
      obtain ⟨hp, hq, hk⟩ := curveStep_K r0 r1 rest d h0 h1 hr hc
      cases h
      exact ⟨.none bk, hp.le, prod_le_of_le (by omega) hq hk (by simp) (by simp)⟩
    · cases h

theorem finalBuy_spec (bk : List Order) (r0 r1 rest inp : Int) (fs : List Fill) (h0 : 0 < r0) (h1 : 0 < r1)
    (hr : 0 < rest) (h : finalBuy r0 r1 rest = .ok inp fs) :
    Consumed bk fs ∧ 0 ≤ inp ∧ Grows r0 r1 inp rest fs := by
  unfold finalBuy at h
  split at h
  · next hn =>
    -- `CalculateSellForBuy` answers nil only when the whole reserve (or more) is asked for: the node returns nil, nil
    have : rest ≥ r1 := by
      unfold sellForBuy at hn
      split_ifs at hn
      assumption
    rw [if_pos (by omega)] at h
    cases h
  · next d hd =>
    split at h
    · next hc =>
      have hdpos := (sellForBuy_K r0 r1 rest d h0 h1 hr hd).2.1
      obtain ⟨hp, hq, hk⟩ := curveStep_K r0 r1 d rest h0 h1 hdpos.le hc
      cases h
      exact ⟨.none bk, hdpos.le, prod_le_of_le (by omega) hq hk (by simp) (by simp)⟩
    · cases h

theorem Calc.add_eq_ok {a : Int} {f : Fill} {c : Calc} {out : Int} {fs : List Fill} (h : c.add a f = .ok out fs) :
    ∃ x fs', c = .ok x fs' ∧ out = a + x ∧ fs = f :: fs' := by
  cases c <;> cases h
  exact ⟨_, _, rfl, rfl, rfl⟩

/-- One induction over `calculateBuyForSellWithOrders` gives what C14 needs of it (`Consumed`) and what C13 needs
    (`Grows`). -/
theorem sellLoop_walk (O : Oracle) (book : List Order) (r0 r1 rest out : Int) (fs : List Fill)
    (hbook : ∀ o ∈ book, 0 < o.wantBuy ∧ 0 < o.wantSell) (h0 : 0 < r0) (h1 : 0 < r1) (hr : 0 ≤ rest)
    (h : sellLoop O book r0 r1 rest = .ok out fs) : Consumed book fs ∧ 0 ≤ out ∧ Grows r0 r1 rest out fs := by
  fun_induction sellLoop O book r0 r1 rest generalizing out fs with
  | case1 | case3 => cases h; exact ⟨.none _, le_rfl, prod_le_of_le h0 h1 le_rfl (by simp) (by simp)⟩
  | case2 | case5 => exact finalSell_spec _ _ _ _ out fs h0 h1 hr h
  | case4 | case6 => cases h
  | case7 o bk r0 r1 rest _ r0' r1' rest' add hpre amount0 hle a1 hp =>
    -- partial fill: the walk ends here, the pool keeps both commissions
    cases h
    obtain ⟨g0, g1, gr, ga, e0, e1, gk⟩ := preSell_go O r0 r1 rest o r0' r1' rest' add h0 h1 hr hpre
    have ho := hbook o List.mem_cons_self
    have hc1 := com1001_bounds rest' gr
    have hf := (partialSell_ok o _ a1 ho.1 ho.2 (by omega) hle hp).1
    have hcs := com1000_bounds a1 hf.sell_nonneg
    exact ⟨.part o bk _ hf, by omega,
      prod_le_of_le g0 g1 gk (by simp; omega) (by simp; omega)⟩
  | case8 o bk r0 r1 rest _ r0' r1' rest' add hpre amount0 hgt ih =>
    -- the order is consumed completely, the walk goes on
    obtain ⟨g0, g1, gr, ga, e0, e1, gk⟩ := preSell_go O r0 r1 rest o r0' r1' rest' add h0 h1 hr hpre
    obtain ⟨ho, hbk⟩ := List.forall_mem_cons.mp hbook
    obtain ⟨x, fs', hrec, rfl, rfl⟩ := Calc.add_eq_ok h
    obtain ⟨s0, s1, sk⟩ := orderStep_K r0' r1' o g0 g1 ho.1.le ho.2.le
    -- the rest passed on: the order did not cover `rest'` less the 1/1001 set aside
    have hrest : 0 ≤ rest' - (o.wantBuy + com1000 o.wantBuy) := by
      have := com1001_ceil rest' gr
      have := com1000_ceil o.wantBuy ho.1.le
      omega
    obtain ⟨ic, ix, ik⟩ := ih x fs' hbk s0 s1 hrest hrec
    have hcs := com1000_bounds o.wantSell ho.2.le
    exact ⟨.full o bk fs' ic, by omega, ik.cons (gk.trans sk) (by omega) (by omega)⟩

theorem buyLoop_walk (O : Oracle) (book : List Order) (r0 r1 rest inp : Int) (fs : List Fill)
    (hbook : ∀ o ∈ book, 0 < o.wantBuy ∧ 0 < o.wantSell) (h0 : 0 < r0) (h1 : 0 < r1) (hr : 0 ≤ rest)
    (h : buyLoop O book r0 r1 rest = .ok inp fs) : Consumed book fs ∧ 0 ≤ inp ∧ Grows r0 r1 inp rest fs := by
  fun_induction buyLoop O book r0 r1 rest generalizing inp fs with
  | case1 | case3 => cases h; exact ⟨.none _, le_rfl, prod_le_of_le h0 h1 le_rfl (by simp) (by simp)⟩
  | case2 | case5 => exact finalBuy_spec _ _ _ _ inp fs h0 h1 (by omega) h
  | case4 | case6 => cases h
  | case7 o bk r0 r1 rest _ r0' r1' rest' add hpre amount1 hle a0 a1 hp =>
    -- partial fill: the pool keeps the commission on `a0` and whatever the order gives beyond `rest'`
    cases h
    obtain ⟨g0, g1, gr, ga, e0, e1, gk⟩ := preBuy_go O r0 r1 rest o r0' r1' rest' add h0 h1 hr hpre
    have ho := hbook o List.mem_cons_self
    have hc9 := com0999_nonneg rest' gr
    have hf := (partialBuy_ok o _ a0 a1 ho.1 ho.2 (by omega) hle hp).1
    have ha1 := (partialBuyAmounts_eq o _ a0 a1 ho.1 ho.2 (by omega) hle hp).2
    have hcb := com1000_bounds a0 hf.buy_nonneg
    exact ⟨.part o bk _ hf, by omega,
      prod_le_of_le g0 g1 gk (by simp; omega) (by simp; omega)⟩
  | case8 o bk r0 r1 rest _ r0' r1' rest' add hpre amount1 hgt ih =>
    obtain ⟨g0, g1, gr, ga, e0, e1, gk⟩ := preBuy_go O r0 r1 rest o r0' r1' rest' add h0 h1 hr hpre
    obtain ⟨ho, hbk⟩ := List.forall_mem_cons.mp hbook
    obtain ⟨x, fs', hrec, rfl, rfl⟩ := Calc.add_eq_ok h
    obtain ⟨s0, s1, sk⟩ := orderStep_K r0' r1' o g0 g1 ho.1.le ho.2.le
    -- the rest passed on: the order did not cover `rest'` plus the 1/999 on top
    have hrest : 0 ≤ rest' - (o.wantSell - com1000 o.wantSell) := by
      have := com0999_ceil rest' gr
      have := com1000_ceil o.wantSell ho.2.le
      omega
    obtain ⟨ic, ix, ik⟩ := ih x fs' hbk s0 s1 hrest hrec
    have hcb := com1000_bounds o.wantBuy ho.1.le
    exact ⟨.full o bk fs' ic, by omega, ik.cons (gk.trans sk) (by omega) (by omega)⟩

/-- `sellLoop_walk` without `Consumed`, `Grows` written out: the reserves are those `settle` writes (`settle_ok`). -/
theorem sellLoop_K (O : Oracle) : ∀ (book : List Order) (r0 r1 rest out : Int) (fs : List Fill),
    (∀ o ∈ book, 0 < o.wantBuy ∧ 0 < o.wantSell) → 0 < r0 → 0 < r1 → 0 ≤ rest →
    sellLoop O book r0 r1 rest = .ok out fs →
    0 ≤ out ∧ 0 < r0 + rest - sumBuy fs ∧ 0 < r1 - out + sumSell fs ∧
    r0 * r1 ≤ (r0 + rest - sumBuy fs) * (r1 - out + sumSell fs) :=
  fun book r0 r1 rest out fs hbook h0 h1 hr h =>
    (sellLoop_walk O book r0 r1 rest out fs hbook h0 h1 hr h).2

theorem buyLoop_K (O : Oracle) : ∀ (book : List Order) (r0 r1 rest inp : Int) (fs : List Fill),
    (∀ o ∈ book, 0 < o.wantBuy ∧ 0 < o.wantSell) → 0 < r0 → 0 < r1 → 0 ≤ rest →
    buyLoop O book r0 r1 rest = .ok inp fs →
    0 ≤ inp ∧ 0 < r0 + inp - sumBuy fs ∧ 0 < r1 - rest + sumSell fs ∧
    r0 * r1 ≤ (r0 + inp - sumBuy fs) * (r1 - rest + sumSell fs) :=
  fun book r0 r1 rest inp fs hbook h0 h1 hr h =>
    (buyLoop_walk O book r0 r1 rest inp fs hbook h0 h1 hr h).2

theorem settle_ok (r0 r1 : Int) (book : List Order) (a out : Int) (fs : List Fill) (ret : Int) (res : TradeResult)
    (h : settle r0 r1 book a out fs ret = .ok res) :
    res.amount = ret ∧ res.r0 = r0 + a - sumBuy fs ∧ res.r1 = r1 - out + sumSell fs ∧ res.fills = fs ∧
    res.credits = credits fs := by
  unfold settle calcDiffPool at h
  simp only at h
  split at h
  · cases h
  · cases h
    refine ⟨rfl, ?_, ?_, rfl, rfl⟩ <;> simp only <;> ring

theorem sellWithOrders_walk (O : Oracle) (sorted : Bool) (r0 r1 : Int) (book : List Order) (amountIn : Int)
    (res : TradeResult) (hbook : ∀ o ∈ book, 0 < o.wantBuy ∧ 0 < o.wantSell) (h0 : 0 < r0) (h1 : 0 < r1)
    (h : sellWithOrders O sorted r0 r1 book amountIn = .ok res) :
    Consumed (sortBook sorted book) res.fills ∧ res.credits = credits res.fills ∧
    0 < res.r0 ∧ 0 < res.r1 ∧ r0 * r1 ≤ res.r0 * res.r1 ∧ 0 < res.amount := by
  unfold sellWithOrders at h
  simp only at h
  split_ifs at h with _ hnet
  split at h
  · cases h
  · cases h
  · next out fs hloop =>
    split_ifs at h with hout
    obtain ⟨hc, _, hk⟩ := sellLoop_walk O _ r0 r1 _ out fs
      (fun o ho => hbook o ((sortBook_perm sorted book).subset ho)) h0 h1 (by omega) hloop
    obtain ⟨ea, e0, e1, ef, ec⟩ := settle_ok _ _ _ _ _ _ _ _ h
    rw [e0, e1, ea, ef, ec]
    exact ⟨hc, rfl, hk.1, hk.2.1, hk.2.2, by omega⟩

theorem buyWithOrders_walk (O : Oracle) (sorted : Bool) (r0 r1 : Int) (book : List Order) (amountOut : Int)
    (res : TradeResult) (hbook : ∀ o ∈ book, 0 < o.wantBuy ∧ 0 < o.wantSell) (h0 : 0 < r0) (h1 : 0 < r1)
    (h : buyWithOrders O sorted r0 r1 book amountOut = .ok res) :
    Consumed (sortBook sorted book) res.fills ∧ res.credits = credits res.fills ∧
    0 < res.r0 ∧ 0 < res.r1 ∧ r0 * r1 ≤ res.r0 * res.r1 ∧ 0 < res.amount := by
  unfold buyWithOrders at h
  split_ifs at h with hpos
  split at h
  · cases h
  · cases h
  · next inp fs hloop =>
    split_ifs at h with hinp
    obtain ⟨hc, _, hk⟩ := buyLoop_walk O _ r0 r1 _ inp fs
      (fun o ho => hbook o ((sortBook_perm sorted book).subset ho)) h0 h1 (by omega) hloop
    obtain ⟨ea, e0, e1, ef, ec⟩ := settle_ok _ _ _ _ _ _ _ _ h
    have := com0999_nonneg inp (by omega)
    rw [e0, e1, ea, ef, ec]
    exact ⟨hc, rfl, hk.1, hk.2.1, hk.2.2, by omega⟩

/-- C13 for `SellWithOrders`.  `0 < res.r1`: the pool never pays out more than it holds, counting the commissions it
    receives in the same trade. -/
theorem sellWithOrders_K (O : Oracle) (sorted : Bool) (r0 r1 : Int) (book : List Order) (amountIn : Int)
    (res : TradeResult) (hbook : ∀ o ∈ book, 0 < o.wantBuy ∧ 0 < o.wantSell) (h0 : 0 < r0) (h1 : 0 < r1)
    (h : sellWithOrders O sorted r0 r1 book amountIn = .ok res) :
    0 < res.r0 ∧ 0 < res.r1 ∧ r0 * r1 ≤ res.r0 * res.r1 ∧ 0 < res.amount :=
  (sellWithOrders_walk O sorted r0 r1 book amountIn res hbook h0 h1 h).2.2

theorem buyWithOrders_K (O : Oracle) (sorted : Bool) (r0 r1 : Int) (book : List Order) (amountOut : Int)
    (res : TradeResult) (hbook : ∀ o ∈ book, 0 < o.wantBuy ∧ 0 < o.wantSell) (h0 : 0 < r0) (h1 : 0 < r1)
    (h : buyWithOrders O sorted r0 r1 book amountOut = .ok res) :
    0 < res.r0 ∧ 0 < res.r1 ∧ r0 * r1 ≤ res.r0 * res.r1 ∧ 0 < res.amount :=
  (buyWithOrders_walk O sorted r0 r1 book amountOut res hbook h0 h1 h).2.2

/-! ### non-vacuity: a trade that walks the curve, consumes one order completely and fills the next one partially -/

def exBook : List Order :=
  [⟨1, 20000000000, 19000000000, 7, 100⟩, ⟨2, 30000000000, 27000000000, 8, 101⟩]

/-- any positive answer would do: the step is validated by `checkSwap`. -/
def exOracle : Oracle := fun _ _ _ _ => some 10000000

example : sellLoop exOracle exBook 1000000000000 1000000000000 30000000000 =
    .ok 27947049501 [⟨1, 20000000000, 19000000000, 7⟩, ⟨2, 9950049950, 8955044955, 8⟩] := by decide

example : buyLoop exOracle exBook 1000000000000 1000000000000 25000000000 =
    .ok 26718945000 [⟨1, 20000000000, 19000000000, 7⟩, ⟨2, 6672272727, 6005045455, 8⟩] := by decide

example : (∀ o ∈ exBook, 0 < o.wantBuy ∧ 0 < o.wantSell) := by decide

end Minter.Lob
