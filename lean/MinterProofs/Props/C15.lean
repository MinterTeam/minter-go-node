import MinterProofs.TxLemmas
import MinterProofs.C07Kernels
import Mathlib.Tactic.Linarith
import Mathlib.Tactic.Ring
/-
  C15 (swaps and conversions honour the user's slippage limits; the result tags equal the amounts moved).
  Bancor conversions: the handler compares the oracle's quote with the limit, and the deliver half executes that very quote.
  Pool routes and liquidity (pools without orders): the validation works on the reserves `simRes` predicts for the time after
  the commission swap; the execution recomputes every amount on the real reserves (a sell route with the minimum set to zero).
  The pool kernels are monotone in the reserves (`buyForSell_mono`, `sellForBuy_mono`), so reserves at least as favourable as
  the simulated ones (`Better`) carry a validated limit over to the execution; and after `payCommission` the real reserves ARE
  the simulated ones (`sim_eq_real`, /repo a9a396f).
-/
namespace Minter

/-! ### Bancor -/

theorem bancor_move_balances (a : Addr) (sell buy : Coin) (sellAmt buyAmt bip : Int) (hne : sell ≠ buy)
    (hs : sell = 0 → bip = sellAmt) (hb : buy = 0 → bip = buyAmt) :
    sumBal a buy (Move.bancor a sell sellAmt buy buyAmt bip).prims = buyAmt ∧
    sumBal a sell (Move.bancor a sell sellAmt buy buyAmt bip).prims = -sellAmt := by
  simp only [Move.prims, sumBal, sumBy_append]
  by_cases h1 : sell = 0 <;> by_cases h2 : buy = 0
  · exact absurd (h1.trans h2.symm) hne
  · have := hs h1
    subst h1
    simp [h2, sumBy, Prim.balDelta', hne]
    omega
  · have := hb h2
    subst h2
    simp [h1, sumBy, Prim.balDelta', Ne.symm hne]
    omega
  · simp [h1, h2, sumBy, Prim.balDelta', hne, Ne.symm hne]

theorem sellStep2_base (o : Oracle) (buy : Coin) (t : BView) (x bip got : Int)
    (h : sellStep2 o buy t x = .ok (.ok (bip, got))) : bip = x ∧ (buy = 0 → got = bip) := by
  unfold sellStep2 at h
  split at h
  · cases h; exact ⟨rfl, fun _ => rfl⟩
  next hb =>
  split at h
  · cases h
  · cases (code_guard_iff.mp h).2
    exact ⟨rfl, fun e => absurd (by simpa using e) hb⟩

theorem sellQuote_base (P : Params) (o : Oracle) (sell buy : Coin) (f t : BView) (value bip got : Int)
    (h : sellQuote P o sell buy f t value = .ok (.ok (bip, got))) : (sell = 0 → bip = value) ∧ (buy = 0 → got = bip) := by
  unfold sellQuote at h
  split at h
  · have := sellStep2_base _ _ _ _ _ _ h
    exact ⟨fun _ => this.1, this.2⟩
  · rename_i hs
    split at h
    · cases h
    · cases h
    · have := sellStep2_base _ _ _ _ _ _ h
      exact ⟨fun e => absurd (by simpa using e) hs, this.2⟩

theorem bancorBasic_ne (s : State) (sell buy : Coin) (h : bancorBasic s sell buy = none) : sell ≠ buy := by
  simp only [bancorBasic, ite_some_eq_none] at h
  simpa using h.2.2.2.2.1

theorem sell_coin_spec (P : Params) (o : Oracle) (s : State) (t : TxIn) (price : Int) (rd : Ready)
    (h : runSellCoin P o s t price = .ok (.ok rd)) :
    ∃ com got bip, t.int "d.MinimumValueToBuy" ≤ got ∧ t.nat "d.CoinToSell" ≠ t.nat "d.CoinToBuy" ∧
      (t.nat "d.CoinToSell" = 0 → bip = t.int "d.ValueToSell") ∧ (t.nat "d.CoinToBuy" = 0 → got = bip) ∧
      rd = { payer := t.sender, coin := t.gasCoin, com := com, exec := fun _ => pure (
        [.bancor t.sender (t.nat "d.CoinToSell") (t.int "d.ValueToSell") (t.nat "d.CoinToBuy") got bip],
        [("tx.return", toString got), ("tx.reserve", toString bip)]) } := by
  simp only [runSellCoin] at h
  split at h
  · cases h
  next hbasic =>
  simp only [withCom_ready_iff, guard_ready_iff] at h
  obtain ⟨com, -, -, -, h⟩ := h
  split at h
  · cases h
  · cases h
  next bip got hq =>
  simp only [guard_ready_iff, ready_iff] at h
  have hb := sellQuote_base _ _ _ _ _ _ _ _ _ hq
  exact ⟨com, got, bip, by omega, bancorBasic_ne _ _ _ hbasic, hb.1, hb.2, h.2⟩

theorem buy_coin_spec (P : Params) (o : Oracle) (s : State) (t : TxIn) (price : Int) (rd : Ready)
    (h : runBuyCoin P o s t price = .ok (.ok rd)) :
    ∃ com pay bip, pay ≤ t.int "d.MaximumValueToSell" ∧ t.nat "d.CoinToSell" ≠ t.nat "d.CoinToBuy" ∧
      (t.nat "d.CoinToSell" = 0 → bip = pay) ∧ (t.nat "d.CoinToBuy" = 0 → bip = t.int "d.ValueToBuy") ∧
      rd = { payer := t.sender, coin := t.gasCoin, com := com, exec := fun _ => pure (
        [.bancor t.sender (t.nat "d.CoinToSell") pay (t.nat "d.CoinToBuy") (t.int "d.ValueToBuy") bip],
        [("tx.return", toString pay), ("tx.reserve", toString bip)]) } := by
  simp only [runBuyCoin] at h
  split at h
  · cases h
  next hbasic =>
  obtain ⟨com, -, h⟩ := withCom_ready_iff.mp h
  split at h
  · cases h
  · cases h
  next bip hstep1 =>
  split at h
  · cases h
  · cases h
  next pay hstep2 =>
  simp only [guard_ready_iff, ready_iff] at h
  refine ⟨com, pay, bip, by omega, bancorBasic_ne _ _ _ hbasic, fun hs => ?_, fun hb => ?_, h.2.2.2⟩
  · simp only [buyStep2, hs, beq_self_eq_true, if_true] at hstep2
    cases hstep2; rfl
  · simp only [buyStep1, hb, beq_self_eq_true, if_true] at hstep1
    cases hstep1; rfl

/-- The commission is paid in the coin sold (`rd.coin`). -/
theorem sell_all_coin_spec (P : Params) (o : Oracle) (s : State) (t : TxIn) (price : Int) (rd : Ready)
    (h : runSellAllCoin P o s t price = .ok (.ok rd)) :
    ∃ com got bip, t.int "d.MinimumValueToBuy" ≤ got ∧ t.nat "d.CoinToSell" ≠ t.nat "d.CoinToBuy" ∧
      0 < balanceOf s t.sender (t.nat "d.CoinToSell") - com.commission ∧
      (t.nat "d.CoinToSell" = 0 → bip = balanceOf s t.sender (t.nat "d.CoinToSell") - com.commission) ∧
      (t.nat "d.CoinToBuy" = 0 → got = bip) ∧
      rd = { payer := t.sender, coin := t.nat "d.CoinToSell", com := com, minOut := com.inBase, exec := fun _ => pure (
        [.bancor t.sender (t.nat "d.CoinToSell") (balanceOf s t.sender (t.nat "d.CoinToSell") - com.commission) (t.nat "d.CoinToBuy") got bip],
        [("tx.return", toString got), ("tx.reserve", toString bip),
         ("tx.sell_amount", toString (balanceOf s t.sender (t.nat "d.CoinToSell")))]) } := by
  simp only [runSellAllCoin] at h
  split at h
  · cases h
  next hbasic =>
  simp only [withCom_ready_iff, guard_ready_iff] at h
  obtain ⟨com, -, -, hpos, h⟩ := h
  split at h
  · cases h
  · cases h
  next bip got hq =>
  simp only [guard_ready_iff, pure_ready_iff] at h
  have hb := sellQuote_base _ _ _ _ _ _ _ _ _ hq
  exact ⟨com, got, bip, by omega, bancorBasic_ne _ _ _ hbasic, by omega, hb.1, hb.2, h.2⟩

theorem C15_sell_coin (P : Params) (o : Oracle) (s : State) (b : Nat) (t : TxIn) (out : Outcome)
    (ht : t.typ = 2) (h : deliverTx P o s b t = .ok out) (h0 : out.code = 0) :
    ∃ ret bip, t.int "d.MinimumValueToBuy" ≤ ret ∧ ("tx.return", toString ret) ∈ out.tags ∧
      Move.bancor t.sender (t.nat "d.CoinToSell") (t.int "d.ValueToSell") (t.nat "d.CoinToBuy") ret bip ∈ out.moves ∧
      sumBal t.sender (t.nat "d.CoinToBuy") (Move.bancor t.sender (t.nat "d.CoinToSell") (t.int "d.ValueToSell") (t.nat "d.CoinToBuy") ret bip).prims = ret ∧
      sumBal t.sender (t.nat "d.CoinToSell") (Move.bancor t.sender (t.nat "d.CoinToSell") (t.int "d.ValueToSell") (t.nat "d.CoinToBuy") ret bip).prims = -(t.int "d.ValueToSell") := by
  obtain ⟨price, rd, paid, body, tags, hr, -, he, hms, htg⟩ := deliver_exec P o s b t out h h0
  rw [runData, ht] at hr
  obtain ⟨com, got, bip, hmin, hne, hs0, hb0, rfl⟩ := sell_coin_spec P o s t price rd hr
  cases he
  have hbal := bancor_move_balances t.sender _ _ (t.int "d.ValueToSell") got bip hne hs0 (fun e => (hb0 e).symm)
  exact ⟨got, bip, hmin, htg _ (List.mem_cons_self ..), hms _ (List.mem_singleton.mpr rfl), hbal.1, hbal.2⟩

theorem C15_buy_coin (P : Params) (o : Oracle) (s : State) (b : Nat) (t : TxIn) (out : Outcome)
    (ht : t.typ = 4) (h : deliverTx P o s b t = .ok out) (h0 : out.code = 0) :
    ∃ ret bip, ret ≤ t.int "d.MaximumValueToSell" ∧ ("tx.return", toString ret) ∈ out.tags ∧
      Move.bancor t.sender (t.nat "d.CoinToSell") ret (t.nat "d.CoinToBuy") (t.int "d.ValueToBuy") bip ∈ out.moves ∧
      sumBal t.sender (t.nat "d.CoinToBuy") (Move.bancor t.sender (t.nat "d.CoinToSell") ret (t.nat "d.CoinToBuy") (t.int "d.ValueToBuy") bip).prims = t.int "d.ValueToBuy" ∧
      sumBal t.sender (t.nat "d.CoinToSell") (Move.bancor t.sender (t.nat "d.CoinToSell") ret (t.nat "d.CoinToBuy") (t.int "d.ValueToBuy") bip).prims = -ret := by
  obtain ⟨price, rd, paid, body, tags, hr, -, he, hms, htg⟩ := deliver_exec P o s b t out h h0
  rw [runData, ht] at hr
  obtain ⟨com, pay, bip, hmax, hne, hs0, hb0, rfl⟩ := buy_coin_spec P o s t price rd hr
  cases he
  have hbal := bancor_move_balances t.sender _ _ pay (t.int "d.ValueToBuy") bip hne hs0 hb0
  exact ⟨pay, bip, hmax, htg _ (List.mem_cons_self ..), hms _ (List.mem_singleton.mpr rfl), hbal.1, hbal.2⟩

theorem C15_sell_all_coin (P : Params) (o : Oracle) (s : State) (b : Nat) (t : TxIn) (out : Outcome)
    (ht : t.typ = 3) (h : deliverTx P o s b t = .ok out) (h0 : out.code = 0) :
    ∃ com paid ret bip, payCommission s t.sender (t.nat "d.CoinToSell") com com.inBase = .ok paid ∧ paid.amount = com.commission ∧
      t.int "d.MinimumValueToBuy" ≤ ret ∧ ("tx.return", toString ret) ∈ out.tags ∧
      ("tx.sell_amount", toString (balanceOf s t.sender (t.nat "d.CoinToSell"))) ∈ out.tags ∧
      Move.bancor t.sender (t.nat "d.CoinToSell") (balanceOf s t.sender (t.nat "d.CoinToSell") - com.commission) (t.nat "d.CoinToBuy") ret bip ∈ out.moves := by
  obtain ⟨price, rd, paid, body, tags, hr, hpay, he, hms, htg⟩ := deliver_exec P o s b t out h h0
  rw [runData, ht] at hr
  -- the minimum asked from the commission swap is the base value of the commission (`minOut := com.inBase`)
  obtain ⟨com, got, bip, hmin, -, -, -, -, rfl⟩ := sell_all_coin_spec P o s t price rd hr
  cases he
  exact ⟨com, paid, got, bip, hpay, (payCommission_shape _ _ _ _ _ _ hpay).1, hmin, htg _ (List.mem_cons_self ..),
    htg _ (by simp), hms _ (List.mem_singleton.mpr rfl)⟩

/-! ### Sell routes -/

/-- `real` is at least as favourable to the trader as `sim`: same output side, input side not larger. The route theorems are
    stated for any such reserves; with the exact simulation they are used with equality (`sim_vs_real`). -/
def Better (real sim : Int × Int) : Prop := 0 < real.1 ∧ real.1 ≤ sim.1 ∧ real.2 = sim.2 ∧ 0 < sim.2

/-- One hop: on reserves at least as favourable, a sale of at least `v` returns at least what the validation quoted for `v`
    (`buyForSell_mono` in both arguments). -/
theorem hop_sell_mono (r r' : Int × Int) (hb : Better r' r) (v v' x out : Int) (hv : 0 < v) (hvv : v ≤ v')
    (hc : quoteBuyForSell r.1 r.2 v = .val x) (hx : 0 < x)
    (he : bfsNoOrders r'.1 r'.2 (v' - com1000 v') = .val out) (ho : 0 < out) : x ≤ out := by
  obtain ⟨-, hnet, hc⟩ := quoteBFS_pos _ _ _ _ hv.le hc hx
  obtain ⟨h1, h2, h3, h4⟩ := hb
  have hbs' := (bfs_val_pos _ _ _ _ he ho).2
  rw [h3] at hbs'
  exact buyForSell_mono r.1 r'.1 r.2 _ _ x out h1 h2 h4 hnet (net_mono v v' hv.le hvv) (bfs_val_pos _ _ _ _ hc hx).2 hbs'

theorem routeSellCheck_cons {s : State} {gas : Coin} {com : Com} {minBuy : Int} {a b : Coin} {rest : List Coin} {v : Int} {used : List Nat}
    {x : Int} (h : routeSellCheck s gas com minBuy a (b :: rest) v used = .ok (.ok x)) :
    used.contains (poolId s a b) = false ∧ pairHasOrders s a b = false ∧
    ∃ r0 r1 x1, simRes s gas com a b = .ok (r0, r1) ∧
      checkSwapQuote r0 r1 v (if rest.isEmpty then minBuy else 0) false = .ok (.ok x1) ∧ 0 < x1 ∧
      routeSellCheck s gas com minBuy b rest x1 (poolId s a b :: used) = .ok (.ok x) := by
  unfold routeSellCheck at h
  simp only [code_guard_iff, guard_throw_iff] at h
  obtain ⟨hu, ho, h⟩ := h
  split at h
  · cases h
  next r0 r1 hsim =>
  split at h
  · cases h
  · cases h
  next x1 hq =>
  obtain ⟨hx1, h⟩ := code_guard_iff.mp h
  exact ⟨by simpa using hu, by simpa using ho, r0, r1, x1, hsim, hq, by omega, h⟩

theorem routeSellExec_cons {s : State} {adj : Option PoolAdj} {who : Addr} {a b : Coin} {rest : List Coin} {v : Int} {ms : List Move} {out : Int}
    (h : routeSellExec s adj who a (b :: rest) v = .ok (ms, out)) :
    ∃ mv out1 j ms', pairSellMove s adj who a b v 0 false who = .ok (mv, out1, j) ∧
      routeSellExec s adj who b rest out1 = .ok (ms', out) ∧ ms = mv :: ms' := by
  unfold routeSellExec at h
  split at h
  · cases h
  next mv out1 j hm =>
  split at h
  · cases h
  next ms' fin hrec => cases h; exact ⟨mv, out1, j, ms', hm, hrec, rfl⟩

theorem routeSellCheck_min (s : State) (gas : Coin) (com : Com) (minBuy : Int) :
    ∀ (rest : List Coin) (a : Coin) (v : Int) (used : List Nat) (x : Int), rest ≠ [] →
      routeSellCheck s gas com minBuy a rest v used = .ok (.ok x) → minBuy ≤ x ∧ 0 < x := by
  intro rest
  induction rest with
  | nil => intro a v used x hne; exact absurd rfl hne
  | cons b rest ih =>
    intro a v used x _ h
    obtain ⟨-, -, r0, r1, x1, -, hq, hx1, h⟩ := routeSellCheck_cons h
    cases rest with
    | nil =>
      -- the last hop was checked against the minimum
      unfold routeSellCheck at h
      cases h
      have := (checkSwapQuote_sell_ok _ _ _ _ _ hq).2
      simp only [List.isEmpty_nil, if_true] at this
      exact ⟨by split at this <;> omega, hx1⟩
    | cons c rest' => exact ih b x1 _ x (by simp) h

/-- Along a route the execution returns at least what the validation computed: induction over the hops with `hop_sell_mono`, the
    amount entering each hop being at least the validated one. -/
theorem routeSellExec_ge_check (s : State) (gas : Coin) (com : Com) (minBuy : Int) (adj : Option PoolAdj) (who : Addr)
    (H : ∀ a b r, simRes s gas com a b = .ok r → ∃ r', poolResAdj s adj a b = some r' ∧ Better r' r) :
    ∀ (rest : List Coin) (a : Coin) (v v' : Int) (used : List Nat) (x : Int) (ms : List Move) (out : Int),
      0 < v → v ≤ v' → routeSellCheck s gas com minBuy a rest v used = .ok (.ok x) →
      routeSellExec s adj who a rest v' = .ok (ms, out) → x ≤ out := by
  intro rest
  induction rest with
  | nil =>
    intro a v v' used x ms out _ hvv hc he
    unfold routeSellCheck at hc; unfold routeSellExec at he
    cases hc; cases he; exact hvv
  | cons b rest ih =>
    intro a v v' used x ms out hv hvv hc he
    obtain ⟨-, -, r0, r1, x1, hsim, hq, hx1, hc⟩ := routeSellCheck_cons hc
    obtain ⟨mv, out1, j, ms', hmove, hrec, -⟩ := routeSellExec_cons he
    obtain ⟨r', hr', hbetter⟩ := H a b (r0, r1) hsim
    obtain ⟨-, hout1, -, -, -, -, -, q0, q1, hres, hbfs⟩ := pairSellMove_shape _ _ _ _ _ _ _ _ _ _ _ _ hmove
    rw [hr'] at hres
    cases hres
    exact ih b x1 out1 _ x ms' out hx1
      (hop_sell_mono (r0, r1) (q0, q1) hbetter v v' x1 out1 hv hvv (checkSwapQuote_sell_ok _ _ _ _ _ hq).1 hx1 hbfs hout1) hc hrec

/-! ### After the commission swap the pools are the simulated ones -/

/-- The reserve change a paid commission leaves behind: none, or the sale of the commission, net of its 0.1 % burn, on the
    pool `{gas, BIP}`. -/
theorem payCommission_adj (s : State) (hok : PoolsOk s) (payer : Addr) (gas : Coin) (com : Com) (minOut : Int) (paid : Paid)
    (hpay : payCommission s payer gas com minOut = .ok paid) :
    (com.fromPool = false ∧ paid.adj = none) ∨
    (com.fromPool = true ∧ ∃ r0 r1 out, poolRes s gas 0 = some (r0, r1) ∧ 0 < com.commission ∧
      bfsNoOrders r0 r1 (com.commission - com1000 com.commission) = .val out ∧ 0 < com.commission - com1000 com.commission ∧
      out < r1 ∧ paid.adj = some ⟨gas, 0, com.commission - com1000 com.commission, -out⟩) := by
  rcases (payCommission_shape s payer gas com minOut paid hpay).2 with
    ⟨hf, mv, out, j, hm, -, -, hadj⟩ | ⟨hf, -, -, -, hadj⟩ | ⟨hf, -, -, -, -, hadj⟩
  · obtain ⟨hC, hout, -, hnet, -, rfl, -, r0, r1, hres, hbfs⟩ := pairSellMove_shape _ _ _ _ _ _ _ _ _ _ _ _ hm
    rw [poolResAdj_none] at hres
    have hpos := poolRes_pos s hok gas 0 r0 r1 hres
    have hK := buyForSell_K r0 r1 _ out hpos.1 hpos.2 hnet (bfs_val_pos _ _ _ _ hbfs hout).2
    exact .inr ⟨hf, r0, r1, out, hres, hC, hbfs, hnet, hK.2.1, hadj⟩
  · exact .inl ⟨hf, hadj⟩
  · exact .inl ⟨hf, hadj⟩

/-- Untouched pools trivially; the commission pool because `simRes` applies the same net input and the same output as
    `PairSellWithOrders` does (/repo a9a396f). -/
theorem sim_eq_real (s : State) (hok : PoolsOk s) (payer : Addr) (gas : Coin) (com : Com) (minOut : Int) (paid : Paid)
    (hpay : payCommission s payer gas com minOut = .ok paid) (a b : Coin) (r : Int × Int)
    (hsim : simRes s gas com a b = .ok r) : poolResAdj s paid.adj a b = some r ∧ 0 < r.1 ∧ 0 < r.2 := by
  cases hp : poolRes s a b with
  | none => simp only [simRes, hp] at hsim; cases hsim
  | some rr =>
  obtain ⟨ra, rb⟩ := rr
  have hpos := poolRes_pos s hok a b ra rb hp
  simp only [simRes, hp, isComPool, quoteBuyForSell] at hsim
  rcases payCommission_adj s hok payer gas com minOut paid hpay with
    ⟨hf, hadj⟩ | ⟨hf, r0, r1, out, hres, hC, hbfs, hnet, hlt, hadj⟩
  · simp only [hf, Bool.false_and, Bool.not_false, if_true] at hsim
    cases hsim
    rw [hadj, poolResAdj_none, hp]
    exact ⟨rfl, hpos⟩
  rw [hadj, poolResAdj_some hp]
  simp only [hf, Bool.true_and, hC, if_true, Bool.not_eq_true', Bool.eq_false_iff, ne_eq, Bool.or_eq_true, Bool.and_eq_true,
    beq_iff_eq] at hsim ⊢
  by_cases h1 : a = gas ∧ b = 0
  · -- selling the gas coin on the commission pool
    obtain ⟨rfl, rfl⟩ := h1
    cases hres.symm.trans hp
    simp only [and_self, true_or, not_true, if_false, if_true, hbfs] at hsim ⊢
    split at hsim
    · cases hsim
    cases hsim
    rw [← Int.sub_eq_add_neg]
    exact ⟨rfl, by omega, by omega⟩
  by_cases h2 : a = 0 ∧ b = gas
  · -- buying the gas coin on the commission pool
    obtain ⟨rfl, rfl⟩ := h2
    cases hres.symm.trans (poolRes_flip s hok 0 b ra rb hp)
    have hne : ¬ (0 = b) := by omega
    simp only [hne, and_false, and_self, or_true, not_true, if_false, if_true, hbfs] at hsim ⊢
    split at hsim
    · cases hsim
    cases hsim
    rw [← Int.sub_eq_add_neg]
    exact ⟨rfl, by omega, by omega⟩
  · -- any other pool: untouched by the commission
    rw [if_pos (by omega)] at hsim
    cases hsim
    rw [if_neg (by omega), if_neg (by omega)]
    exact ⟨rfl, hpos⟩

theorem sim_vs_real (s : State) (hok : PoolsOk s) (payer : Addr) (gas : Coin) (com : Com) (minOut : Int) (paid : Paid)
    (hpay : payCommission s payer gas com minOut = .ok paid) (a b : Coin) (r : Int × Int)
    (hsim : simRes s gas com a b = .ok r) : ∃ r', poolResAdj s paid.adj a b = some r' ∧ Better r' r := by
  obtain ⟨h1, h2, h3⟩ := sim_eq_real s hok payer gas com minOut paid hpay a b r hsim
  exact ⟨r, h1, h2, Int.le_refl _, rfl, h3⟩

/-! ### Buy routes -/

theorem hop_buy_mono (r r' : Int × Int) (hb : Better r' r) (w w' x net' : Int) (hw : 0 < w') (hww : w' ≤ w)
    (hc : quoteSellForBuy r.1 r.2 w = .val x) (hx : 0 < x)
    (he : sfbNoOrders r'.1 r'.2 w' = .val net') (hn : 0 < net') : net' + com0999 net' ≤ x := by
  obtain ⟨-, y, hy, hy0, rfl⟩ := quoteSFB_pos _ _ _ _ (by omega) hc hx
  obtain ⟨_, hs⟩ := sfb_val_pos _ _ _ _ hy hy0
  obtain ⟨_, hs'⟩ := sfb_val_pos _ _ _ _ he hn
  obtain ⟨h1, h2, h3, h4⟩ := hb
  rw [h3] at hs'
  have := sellForBuy_mono r.1 r'.1 r.2 w w' y net' h1 h2 h4 hw hww hs hs'
  exact gross_mono net' y (by omega) this

/-- Buying `b` with `a`: a buy route is walked back to front. -/
theorem routeBuyCheck_cons {P : Params} {s : State} {gas : Coin} {com : Com} {maxSell : Int} {a b : Coin} {rest : List Coin} {w : Int}
    {used : List Nat} {x : Int} (h : routeBuyCheck P s gas com maxSell b (a :: rest) w used = .ok (.ok x)) :
    used.contains (poolId s a b) = false ∧ pairHasOrders s a b = false ∧
    ∃ r0 r1 x1, simRes s gas com a b = .ok (r0, r1) ∧
      checkSwapQuote r0 r1 (if rest.isEmpty then maxSell else P.maxSupply) w true = .ok (.ok x1) ∧ 0 < x1 ∧
      routeBuyCheck P s gas com maxSell a rest x1 (poolId s a b :: used) = .ok (.ok x) := by
  unfold routeBuyCheck at h
  simp only [code_guard_iff, guard_throw_iff] at h
  obtain ⟨hu, ho, h⟩ := h
  split at h
  · cases h
  next r0 r1 hsim =>
  split at h
  · cases h
  · cases h
  next x1 hq =>
  obtain ⟨hx1, h⟩ := code_guard_iff.mp h
  exact ⟨by simpa using hu, by simpa using ho, r0, r1, x1, hsim, hq, by omega, h⟩

theorem routeBuyExec_cons {P : Params} {s : State} {adj : Option PoolAdj} {who : Addr} {a b : Coin} {rest : List Coin} {w : Int}
    {ms : List Move} {paid : Int} (h : routeBuyExec P s adj who b (a :: rest) w = .ok (ms, paid)) :
    ∃ mv gross j ms', pairBuyMove P s adj who a b w who = .ok (mv, gross, j) ∧
      routeBuyExec P s adj who a rest gross = .ok (ms', paid) ∧ ms = mv :: ms' := by
  unfold routeBuyExec at h
  split at h
  · cases h
  next mv gross j hm =>
  split at h
  · cases h
  next ms' fin hrec => cases h; exact ⟨mv, gross, j, ms', hm, hrec, rfl⟩

theorem routeBuyCheck_max (P : Params) (s : State) (gas : Coin) (com : Com) (maxSell : Int) :
    ∀ (rest : List Coin) (b : Coin) (w : Int) (used : List Nat) (x : Int), rest ≠ [] →
      routeBuyCheck P s gas com maxSell b rest w used = .ok (.ok x) → x ≤ maxSell ∧ 0 < x := by
  intro rest
  induction rest with
  | nil => intro b w used x hne; exact absurd rfl hne
  | cons a rest ih =>
    intro b w used x _ h
    obtain ⟨-, -, r0, r1, x1, -, hq, hx1, h⟩ := routeBuyCheck_cons h
    cases rest with
    | nil =>
      unfold routeBuyCheck at h
      cases h
      have := (checkSwapQuote_buy_ok _ _ _ _ _ hq).2
      simp only [List.isEmpty_nil, if_true] at this
      exact ⟨this, hx1⟩
    | cons c rest' => exact ih a x1 _ x (by simp) h

theorem routeBuyExec_le_check (P : Params) (s : State) (gas : Coin) (com : Com) (maxSell : Int) (adj : Option PoolAdj) (who : Addr)
    (H : ∀ a b r, simRes s gas com a b = .ok r → ∃ r', poolResAdj s adj a b = some r' ∧ Better r' r) :
    ∀ (rest : List Coin) (b : Coin) (w w' : Int) (used : List Nat) (x : Int) (ms : List Move) (paid : Int),
      0 < w' → w' ≤ w → routeBuyCheck P s gas com maxSell b rest w used = .ok (.ok x) →
      routeBuyExec P s adj who b rest w' = .ok (ms, paid) → paid ≤ x := by
  intro rest
  induction rest with
  | nil =>
    intro b w w' used x ms paid _ hww hc he
    unfold routeBuyCheck at hc; unfold routeBuyExec at he
    cases hc; cases he; exact hww
  | cons a rest ih =>
    intro b w w' used x ms paid hw hww hc he
    obtain ⟨-, -, r0, r1, x1, hsim, hq, hx1, hc⟩ := routeBuyCheck_cons hc
    obtain ⟨mv, gross1, j, ms', hmove, hrec, -⟩ := routeBuyExec_cons he
    obtain ⟨r', hr', hbetter⟩ := H a b (r0, r1) hsim
    obtain ⟨net', burn, -, hnet, -, -, hg, -, q0, q1, hres, hsfb⟩ := pairBuyMove_shape _ _ _ _ _ _ _ _ _ _ _ hmove
    rw [hr'] at hres
    cases hres
    have hhop : gross1 ≤ x1 := by
      rw [hg]
      exact hop_buy_mono (r0, r1) (q0, q1) hbetter w w' x1 net' hw hww (checkSwapQuote_buy_ok _ _ _ _ _ hq).1 hx1 hsfb hnet
    have hgpos : 0 < gross1 := by
      have := com0999_nonneg net' (by omega)
      omega
    exact ih a x1 gross1 _ x ms' paid hgpos hhop hc hrec

/-! ### The three route transactions -/

theorem routeBasic_tail (s : State) (coins : List Coin) (h : routeBasic s coins = none) : coins.tail ≠ [] := by
  have hlen := (ite_some_eq_none.mp h).1
  rw [← List.length_pos_iff, List.length_tail]
  omega

theorem routeSellExec_pos (s : State) (adj : Option PoolAdj) (who : Addr) (a : Coin) (rest : List Coin) (v : Int) (ms : List Move) (out : Int)
    (hne : rest ≠ []) (h : routeSellExec s adj who a rest v = .ok (ms, out)) : 0 < v := by
  cases rest with
  | nil => exact absurd rfl hne
  | cons b t =>
    obtain ⟨mv, o, j, -, hm, -, -⟩ := routeSellExec_cons h
    exact (pairSellMove_shape _ _ _ _ _ _ _ _ _ _ _ _ hm).1

theorem routeBuyExec_pos (P : Params) (s : State) (adj : Option PoolAdj) (who : Addr) (b : Coin) (rest : List Coin) (w : Int) (ms : List Move) (paid : Int)
    (hne : rest ≠ []) (h : routeBuyExec P s adj who b rest w = .ok (ms, paid)) : 0 < w := by
  cases rest with
  | nil => exact absurd rfl hne
  | cons a t =>
    obtain ⟨mv, g, j, -, hm, -, -⟩ := routeBuyExec_cons h
    obtain ⟨-, -, hw, -⟩ := pairBuyMove_shape _ _ _ _ _ _ _ _ _ _ _ hm
    exact hw

theorem sell_pool_spec (P : Params) (o : Oracle) (s : State) (t : TxIn) (price : Int) (rd : Ready)
    (h : runSellPool P o s t price = .ok (.ok rd)) :
    let coins := coinList (t.str "d.Coins")
    ∃ com x, routeBasic s coins = none ∧
      routeSellCheck s t.gasCoin com (t.int "d.MinimumValueToBuy") (coins.headD 0) coins.tail (t.int "d.ValueToSell") [] = .ok (.ok x) ∧
      rd = { payer := t.sender, coin := t.gasCoin, com := com, exec := fun adj =>
        match routeSellExec s adj t.sender (coins.headD 0) coins.tail (t.int "d.ValueToSell") with
        | .error e => throw e
        | .ok (ms, out) => pure (ms, [("tx.return", toString out)]) } := by
  simp only [runSellPool] at h
  split at h
  · cases h
  next hbasic =>
  obtain ⟨com, -, h⟩ := withCom_ready_iff.mp h
  split at h
  · cases h
  · cases h
  next x hcheck =>
  simp only [guard_ready_iff, pure_ready_iff] at h
  exact ⟨com, x, hbasic, hcheck, h.2.2⟩

theorem sell_all_pool_spec (P : Params) (o : Oracle) (s : State) (t : TxIn) (price : Int) (rd : Ready)
    (h : runSellAllPool P o s t price = .ok (.ok rd)) :
    let coins := coinList (t.str "d.Coins")
    let first := coins.headD 0
    ∃ com x, routeBasic s coins = none ∧ 0 < balanceOf s t.sender first - com.commission ∧
      routeSellCheck s first com (t.int "d.MinimumValueToBuy") first coins.tail (balanceOf s t.sender first - com.commission) [] = .ok (.ok x) ∧
      rd = { payer := t.sender, coin := first, com := com, exec := fun adj =>
        match routeSellExec s adj t.sender first coins.tail (balanceOf s t.sender first - com.commission) with
        | .error e => throw e
        | .ok (ms, out) => pure (ms, [("tx.return", toString out), ("tx.sell_amount", toString (balanceOf s t.sender first))]) } := by
  simp only [runSellAllPool] at h
  split at h
  · cases h
  next hbasic =>
  simp only [withCom_ready_iff, guard_ready_iff] at h
  obtain ⟨com, -, hpos, h⟩ := h
  split at h
  · cases h
  · cases h
  next x hcheck =>
  exact ⟨com, x, hbasic, by omega, hcheck, pure_ready_iff.mp h⟩

theorem buy_pool_spec (P : Params) (o : Oracle) (s : State) (t : TxIn) (price : Int) (rd : Ready)
    (h : runBuyPool P o s t price = .ok (.ok rd)) :
    let coins := coinList (t.str "d.Coins")
    ∃ com x, routeBasic s coins = none ∧
      routeBuyCheck P s t.gasCoin com (t.int "d.MaximumValueToSell") (coins.reverse.headD 0) coins.reverse.tail (t.int "d.ValueToBuy") [] = .ok (.ok x) ∧
      rd = { payer := t.sender, coin := t.gasCoin, com := com, exec := fun adj =>
        match routeBuyExec P s adj t.sender (coins.reverse.headD 0) coins.reverse.tail (t.int "d.ValueToBuy") with
        | .error e => throw e
        | .ok (ms, paid) => pure (ms, [("tx.return", toString paid)]) } := by
  simp only [runBuyPool] at h
  split at h
  · cases h
  next hbasic =>
  obtain ⟨com, -, h⟩ := withCom_ready_iff.mp h
  split at h
  · cases h
  · cases h
  next x hcheck =>
  simp only [guard_ready_iff, pure_ready_iff] at h
  exact ⟨com, x, hbasic, hcheck, h.2.2⟩

theorem reverse_head_tail (coins : List Coin) (h : coins ≠ []) : coins.reverse = coins.reverse.headD 0 :: coins.reverse.tail := by
  cases hr : coins.reverse with
  | nil => exact absurd (List.reverse_eq_nil_iff.mp hr) h
  | cons a t => rfl

theorem reverse_tail_ne (coins : List Coin) (h : coins.tail ≠ []) : coins.reverse.tail ≠ [] := by
  rw [← List.length_pos_iff, List.length_tail] at h ⊢
  rwa [List.length_reverse]

/-- Also when the commission swap moved a pool of the route (`sim_vs_real`); `ret` is what the last hop really paid out. -/
theorem C15_sell_pool (P : Params) (o : Oracle) (s : State) (b : Nat) (t : TxIn) (out : Outcome) (hok : PoolsOk s)
    (ht : t.typ = 23) (h : deliverTx P o s b t = .ok out) (h0 : out.code = 0) :
    ∃ adj ms ret, routeSellExec s adj t.sender ((coinList (t.str "d.Coins")).headD 0) (coinList (t.str "d.Coins")).tail (t.int "d.ValueToSell") = .ok (ms, ret) ∧
      t.int "d.MinimumValueToBuy" ≤ ret ∧ ("tx.return", toString ret) ∈ out.tags ∧ ∀ m ∈ ms, m ∈ out.moves := by
  obtain ⟨price, rd, paid, body, tags, hr, hpay, he, hms, htg⟩ := deliver_exec P o s b t out h h0
  rw [runData, ht] at hr
  obtain ⟨com, x, hbasic, hcheck, rfl⟩ := sell_pool_spec P o s t price rd hr
  simp only at he
  split at he
  · cases he
  next ms ret hre =>
  cases he
  have htl := routeBasic_tail s _ hbasic
  have hv := routeSellExec_pos s paid.adj t.sender _ _ _ body ret htl hre
  have H := sim_vs_real s hok t.sender t.gasCoin com 0 paid hpay
  have h1 := routeSellCheck_min s t.gasCoin com _ _ _ _ _ x htl hcheck
  have h2 := routeSellExec_ge_check s t.gasCoin com _ paid.adj t.sender H _ _ _ _ _ x body ret hv (Int.le_refl _) hcheck hre
  exact ⟨paid.adj, body, ret, hre, by omega, htg _ (List.mem_singleton.mpr rfl), hms⟩

/-- The commission is paid in the first coin of the route. -/
theorem C15_sell_all_pool (P : Params) (o : Oracle) (s : State) (b : Nat) (t : TxIn) (out : Outcome) (hok : PoolsOk s)
    (ht : t.typ = 25) (h : deliverTx P o s b t = .ok out) (h0 : out.code = 0) :
    ∃ com paid ms ret, payCommission s t.sender ((coinList (t.str "d.Coins")).headD 0) com 0 = .ok paid ∧ paid.amount = com.commission ∧
      routeSellExec s paid.adj t.sender ((coinList (t.str "d.Coins")).headD 0) (coinList (t.str "d.Coins")).tail
        (balanceOf s t.sender ((coinList (t.str "d.Coins")).headD 0) - com.commission) = .ok (ms, ret) ∧
      t.int "d.MinimumValueToBuy" ≤ ret ∧ ("tx.return", toString ret) ∈ out.tags ∧
      ("tx.sell_amount", toString (balanceOf s t.sender ((coinList (t.str "d.Coins")).headD 0))) ∈ out.tags ∧ ∀ m ∈ ms, m ∈ out.moves := by
  obtain ⟨price, rd, paid, body, tags, hr, hpay, he, hms, htg⟩ := deliver_exec P o s b t out h h0
  rw [runData, ht] at hr
  obtain ⟨com, x, hbasic, hpos, hcheck, rfl⟩ := sell_all_pool_spec P o s t price rd hr
  simp only at he
  split at he
  · cases he
  next ms ret hre =>
  cases he
  have htl := routeBasic_tail s _ hbasic
  have H := sim_vs_real s hok t.sender _ com 0 paid hpay
  have h1 := routeSellCheck_min s _ com _ _ _ _ _ x htl hcheck
  have h2 := routeSellExec_ge_check s _ com _ paid.adj t.sender H _ _ _ _ _ x body ret hpos (Int.le_refl _) hcheck hre
  exact ⟨com, paid, body, ret, hpay, (payCommission_shape _ _ _ _ _ _ hpay).1, hre, by omega,
    htg _ (List.mem_cons_self ..), htg _ (List.mem_cons_of_mem _ (List.mem_singleton.mpr rfl)), hms⟩

/-- Also when the commission swap moved a pool of the route; `paid` is the amount really debited. -/
theorem C15_buy_pool (P : Params) (o : Oracle) (s : State) (b : Nat) (t : TxIn) (out : Outcome) (hok : PoolsOk s)
    (ht : t.typ = 24) (h : deliverTx P o s b t = .ok out) (h0 : out.code = 0) :
    ∃ adj ms paid, routeBuyExec P s adj t.sender ((coinList (t.str "d.Coins")).reverse.headD 0) (coinList (t.str "d.Coins")).reverse.tail (t.int "d.ValueToBuy") = .ok (ms, paid) ∧
      paid ≤ t.int "d.MaximumValueToSell" ∧ ("tx.return", toString paid) ∈ out.tags ∧ ∀ m ∈ ms, m ∈ out.moves := by
  obtain ⟨price, rd, pd, body, tags, hr, hpay, he, hms, htg⟩ := deliver_exec P o s b t out h h0
  rw [runData, ht] at hr
  obtain ⟨com, x, hbasic, hcheck, rfl⟩ := buy_pool_spec P o s t price rd hr
  simp only at he
  split at he
  · cases he
  next ms paid hre =>
  cases he
  have htl := reverse_tail_ne _ (routeBasic_tail s _ hbasic)
  have hw := routeBuyExec_pos P s pd.adj t.sender _ _ _ body paid htl hre
  have H := sim_vs_real s hok t.sender t.gasCoin com 0 pd hpay
  have h1 := routeBuyCheck_max P s t.gasCoin com _ _ _ _ _ x htl hcheck
  have h2 := routeBuyExec_le_check P s t.gasCoin com _ pd.adj t.sender H _ _ _ _ _ x body paid hw (Int.le_refl _) hcheck hre
  exact ⟨pd.adj, body, paid, hre, by omega, htg _ (List.mem_singleton.mpr rfl), hms⟩

/-! ### Liquidity -/

theorem add_liquidity_spec (P : Params) (o : Oracle) (s : State) (t : TxIn) (price : Int) (rd : Ready)
    (h : runAddLiquidity P o s t price = .ok (.ok rd)) :
    ∃ (com : Com) (r0 r1 : Int) (lp : CoinInfo), simRes s t.gasCoin com (t.nat "d.Coin0") (t.nat "d.Coin1") = .ok (r0, r1) ∧ r0 ≠ 0 ∧
      t.int "d.Volume0" * r1 / r0 ≤ t.int "d.MaximumVolume1" ∧ 0 < lp.volume * t.int "d.Volume0" / r0 ∧
      t.addIfGas (t.nat "d.Coin1") (t.int "d.Volume0" * r1 / r0) com.commission ≤ balanceOf s t.sender (t.nat "d.Coin1") ∧
      rd = { payer := t.sender, coin := t.gasCoin, com := com,
             exec := addLiquidityExec s t.sender (t.nat "d.Coin0") (t.nat "d.Coin1") (t.int "d.Volume0") lp } := by
  simp only [runAddLiquidity, guard_ready_iff, withCom_ready_iff] at h
  obtain ⟨-, -, -, -, com, -, -, h⟩ := h
  split at h
  · cases h
  next r0 r1 hsim =>
  split at h
  · cases h
  next lp hlp =>
  simp only [guard_throw_iff, guard_ready_iff, pure_ready_iff, beq_iff_eq, Int.not_lt, Int.not_le] at h
  obtain ⟨hr0, hmax, hliq, hbal, -, h⟩ := h
  exact ⟨com, r0, r1, lp, hsim, hr0, hmax, hliq, hbal, h⟩

theorem remove_liquidity_spec (P : Params) (o : Oracle) (s : State) (t : TxIn) (price : Int) (rd : Ready)
    (h : runRemoveLiquidity P o s t price = .ok (.ok rd)) :
    ∃ (com : Com) (r0 r1 : Int) (lp : CoinInfo), simRes s t.gasCoin com (t.nat "d.Coin0") (t.nat "d.Coin1") = .ok (r0, r1) ∧
      t.int "d.MinimumVolume0" ≤ t.int "d.Liquidity" * r0 / lp.volume ∧ t.int "d.MinimumVolume1" ≤ t.int "d.Liquidity" * r1 / lp.volume ∧
      rd = { payer := t.sender, coin := t.gasCoin, com := com,
             exec := removeLiquidityExec s t.sender (t.nat "d.Coin0") (t.nat "d.Coin1") (t.int "d.Liquidity") (t.int "d.MinimumVolume0") (t.int "d.MinimumVolume1") lp } := by
  simp only [runRemoveLiquidity, guard_ready_iff, withCom_ready_iff] at h
  obtain ⟨-, -, com, -, -, h⟩ := h
  split at h
  · cases h
  next r0 r1 hsim =>
  split at h
  · cases h
  next lp hlp =>
  simp only [guard_throw_iff, guard_ready_iff, pure_ready_iff, Bool.or_eq_true, decide_eq_true_eq, not_or, Int.not_lt] at h
  obtain ⟨-, -, -, ⟨hm0, hm1⟩, h⟩ := h
  exact ⟨com, r0, r1, lp, hsim, hm0, hm1, h⟩

theorem addLiquidityExec_eq (s : State) (who : Addr) (c0 c1 : Coin) (v0 : Int) (lp : CoinInfo) (adj : Option PoolAdj) (r0 r1 : Int)
    (hres : poolResAdj s adj c0 c1 = some (r0, r1)) (h0 : r0 ≠ 0) (h1 : 0 < lp.volume * v0 / r0) :
    addLiquidityExec s who c0 c1 v0 lp adj =
      .ok ([.poolMint who (sorted2 c0 c1 v0 (v0 * r1 / r0)).1 (sorted2 c0 c1 v0 (v0 * r1 / r0)).2.1 (sorted2 c0 c1 v0 (v0 * r1 / r0)).2.2.1
              (sorted2 c0 c1 v0 (v0 * r1 / r0)).2.2.2 lp.id (lp.volume * v0 / r0)],
           [("tx.volume1", toString (v0 * r1 / r0)), ("tx.liquidity", toString (lp.volume * v0 / r0)), ("tx.pool_token_id", toString lp.id)]) := by
  unfold addLiquidityExec
  rw [hres]
  simp only
  have e1 : ¬ ((r0 == 0) = true) := by simpa using h0
  have e2 : ¬ (lp.volume * v0 / r0 ≤ 0) := by omega
  rw [if_neg e1, if_neg e2]
  rfl

theorem removeLiquidityExec_eq (s : State) (who : Addr) (c0 c1 : Coin) (liq min0 min1 : Int) (lp : CoinInfo) (adj : Option PoolAdj) (r0 r1 : Int)
    (hres : poolResAdj s adj c0 c1 = some (r0, r1)) (h0 : min0 ≤ liq * r0 / lp.volume) (h1 : min1 ≤ liq * r1 / lp.volume) :
    removeLiquidityExec s who c0 c1 liq min0 min1 lp adj =
      .ok ([.poolBurn who (sorted2 c0 c1 (liq * r0 / lp.volume) (liq * r1 / lp.volume)).1 (sorted2 c0 c1 (liq * r0 / lp.volume) (liq * r1 / lp.volume)).2.1
              (sorted2 c0 c1 (liq * r0 / lp.volume) (liq * r1 / lp.volume)).2.2.1 (sorted2 c0 c1 (liq * r0 / lp.volume) (liq * r1 / lp.volume)).2.2.2 lp.id liq],
           [("tx.volume0", toString (liq * r0 / lp.volume)), ("tx.volume1", toString (liq * r1 / lp.volume))]) := by
  unfold removeLiquidityExec
  rw [hres]
  simp only
  have hno : ¬ ((decide (liq * r0 / lp.volume < min0) || decide (liq * r1 / lp.volume < min1)) = true) := by
    simp only [Bool.or_eq_true, decide_eq_true_eq, not_or, Int.not_lt]
    exact ⟨h0, h1⟩
  rw [if_neg hno]
  rfl

/-- `addIfGas`: the balance of the second coin was checked against `a1`, plus the commission when that coin pays it. -/
theorem C15_add_liquidity (P : Params) (o : Oracle) (s : State) (b : Nat) (t : TxIn) (out : Outcome) (hok : PoolsOk s)
    (ht : t.typ = 21) (h : deliverTx P o s b t = .ok out) (h0 : out.code = 0) :
    ∃ (com : Com) (a1 liq : Int) (lp : Coin), a1 ≤ t.int "d.MaximumVolume1" ∧ 0 < liq ∧
      t.addIfGas (t.nat "d.Coin1") a1 com.commission ≤ balanceOf s t.sender (t.nat "d.Coin1") ∧
      Move.poolMint t.sender (sorted2 (t.nat "d.Coin0") (t.nat "d.Coin1") (t.int "d.Volume0") a1).1 (sorted2 (t.nat "d.Coin0") (t.nat "d.Coin1") (t.int "d.Volume0") a1).2.1
        (sorted2 (t.nat "d.Coin0") (t.nat "d.Coin1") (t.int "d.Volume0") a1).2.2.1 (sorted2 (t.nat "d.Coin0") (t.nat "d.Coin1") (t.int "d.Volume0") a1).2.2.2 lp liq ∈ out.moves ∧
      ("tx.volume1", toString a1) ∈ out.tags := by
  obtain ⟨price, rd, paid, body, tags, hr, hpay, he, hms, htg⟩ := deliver_exec P o s b t out h h0
  rw [runData, ht] at hr
  obtain ⟨com, r0, r1, lp, hsim, hr0, hmax, hliq, hbal, rfl⟩ := add_liquidity_spec P o s t price rd hr
  obtain ⟨hreal, -, -⟩ := sim_eq_real s hok t.sender t.gasCoin com 0 paid hpay _ _ _ hsim
  cases (addLiquidityExec_eq s _ _ _ _ lp paid.adj r0 r1 hreal hr0 hliq).symm.trans he
  exact ⟨com, t.int "d.Volume0" * r1 / r0, lp.volume * t.int "d.Volume0" / r0, lp.id, hmax, hliq, hbal,
    hms _ (List.mem_singleton.mpr rfl), htg _ (List.mem_cons_self ..)⟩

theorem C15_remove_liquidity (P : Params) (o : Oracle) (s : State) (b : Nat) (t : TxIn) (out : Outcome) (hok : PoolsOk s)
    (ht : t.typ = 22) (h : deliverTx P o s b t = .ok out) (h0 : out.code = 0) :
    ∃ (a0 a1 : Int) (lp : Coin), t.int "d.MinimumVolume0" ≤ a0 ∧ t.int "d.MinimumVolume1" ≤ a1 ∧
      Move.poolBurn t.sender (sorted2 (t.nat "d.Coin0") (t.nat "d.Coin1") a0 a1).1 (sorted2 (t.nat "d.Coin0") (t.nat "d.Coin1") a0 a1).2.1
        (sorted2 (t.nat "d.Coin0") (t.nat "d.Coin1") a0 a1).2.2.1 (sorted2 (t.nat "d.Coin0") (t.nat "d.Coin1") a0 a1).2.2.2 lp (t.int "d.Liquidity") ∈ out.moves ∧
      ("tx.volume0", toString a0) ∈ out.tags ∧ ("tx.volume1", toString a1) ∈ out.tags := by
  obtain ⟨price, rd, paid, body, tags, hr, hpay, he, hms, htg⟩ := deliver_exec P o s b t out h h0
  rw [runData, ht] at hr
  obtain ⟨com, r0, r1, lp, hsim, hm0, hm1, rfl⟩ := remove_liquidity_spec P o s t price rd hr
  obtain ⟨hreal, -, -⟩ := sim_eq_real s hok t.sender t.gasCoin com 0 paid hpay _ _ _ hsim
  cases (removeLiquidityExec_eq s _ _ _ _ _ _ lp paid.adj r0 r1 hreal hm0 hm1).symm.trans he
  exact ⟨t.int "d.Liquidity" * r0 / lp.volume, t.int "d.Liquidity" * r1 / lp.volume, lp.id, hm0, hm1,
    hms _ (List.mem_singleton.mpr rfl), htg _ (List.mem_cons_self ..), htg _ (by simp)⟩

/-- For C06 and C07: the `INSUFFICIENT_LIQUIDITY_BURNED` site of `removeLiquidityExec` is dead once the commission is paid. -/
theorem remove_liquidity_exec_ok (P : Params) (o : Oracle) (s : State) (t : TxIn) (price : Int) (rd : Ready) (paid : Paid) (hok : PoolsOk s)
    (h : runRemoveLiquidity P o s t price = .ok (.ok rd))
    (hpay : payCommission s rd.payer rd.coin rd.com rd.minOut = .ok paid) : ∃ body tags, rd.exec paid.adj = .ok (body, tags) := by
  obtain ⟨com, r0, r1, lp, hsim, hm0, hm1, rfl⟩ := remove_liquidity_spec P o s t price rd h
  obtain ⟨hreal, -, -⟩ := sim_eq_real s hok t.sender t.gasCoin com 0 paid hpay _ _ _ hsim
  exact ⟨_, _, removeLiquidityExec_eq s _ _ _ _ _ _ lp paid.adj r0 r1 hreal hm0 hm1⟩

/-! Non-vacuity (interpreter): a bancor sale with an oracle, and a two-hop pool sale whose commission is paid in the base coin. -/
def c15State : State :=
  { balances := [((1, 0), 1000000000000000000000000), ((1, 7), 50000000000000000000000)],
    coins := [{ id := 7, symbol := "COINA", version := 0, volume := 1000000000000000000000000, reserve := 100000000000000000000000, crr := 50,
                maxSupply := 10000000000000000000000000, owner := some 1, mintable := false, burnable := false },
              { id := 8, symbol := "TOKB", version := 0, volume := 1000000000000000000000000, reserve := 0, crr := 0,
                maxSupply := 10000000000000000000000000, owner := some 1, mintable := true, burnable := true }],
    pools := [{ c0 := 0, c1 := 7, id := 1, r0 := 500000000000000000000000, r1 := 400000000000000000000000 },
              { c0 := 7, c1 := 8, id := 2, r0 := 300000000000000000000000, r1 := 900000000000000000000000 }],
    ncoins := 8,
    commission := [("sell_bancor", 100000000000000000), ("sell_pool_base", 100000000000000000), ("sell_pool_delta", 50000000000000000), ("failed_tx", 1)] }

def c15Oracle : Oracle := fun q => match q with
  | .saleReturn _ _ _ sell => some (sell / 20)
  | _ => none

def c15SellCoin : TxIn :=
  { dec := true, rawLen := 100, typ := 2, nonce := 1, chain := 2, gasPrice := 1, sigOk := true, sender := 1,
    f := [("d.CoinToSell", "7"), ("d.ValueToSell", "1000000000000000000000"), ("d.CoinToBuy", "0"), ("d.MinimumValueToBuy", "50000000000000000000")] }

#guard (match deliverTx {} c15Oracle c15State 10200001 c15SellCoin with
  | .ok out => out.code == 0 && out.tags.contains ("tx.return", "50000000000000000000")
  | .error _ => false)
-- one pip more than the curve pays: rejected with MinimumValueToBuyReached
#guard (match deliverTx {} c15Oracle c15State 10200001
    { c15SellCoin with f := [("d.CoinToSell", "7"), ("d.ValueToSell", "1000000000000000000000"), ("d.CoinToBuy", "0"), ("d.MinimumValueToBuy", "50000000000000000001")] } with
  | .ok out => out.code == 303
  | .error _ => false)

def c15SellPool : TxIn :=
  { dec := true, rawLen := 100, typ := 23, nonce := 1, chain := 2, gasPrice := 1, sigOk := true, sender := 1,
    f := [("d.Coins", "0,7,8"), ("d.ValueToSell", "1000000000000000000000"), ("d.MinimumValueToBuy", "1")] }

#guard (match deliverTx {} c15Oracle c15State 10200001 c15SellPool with
  | .ok out => out.code == 0 && (applyChecked c15State out.plan).isSome &&
      (match applyChecked c15State out.plan with | some s1 => decide (0 < balanceOf s1 1 8) | none => false)
  | .error _ => false)

end Minter
