import MinterProofs.AmountsRouteIds
/-
  C02: SellSwapPool (23) and SellAllSwapPool (25) over routes of pools without orders — every commission route.
  Each hop runs on reserves nobody touched before it (the pools of a route are pairwise distinct: `RouteDistinct`, which the handler's
  `used.contains id` check enforces for pools with distinct ids) and is paid from what the previous hop credited.
-/
namespace Minter

variable {P : Params} {o : Oracle} {s : State} {t : TxIn} {price : Int} {rd : Ready}

/-! ### One hop: the keys stay, the entry carries the reserves the execution computed with -/

theorem frame_keys (s s1 : State) (payer : Addr) (gas : Coin) (com : Com) (adj : Option PoolAdj)
    (hfr : FeeFrame s s1 payer gas com adj) (x y : Coin) : (getPool s1 x y).isSome = (getPool s x y).isSome := by
  unfold getPool
  cases adj with
  | none => rw [hfr.pools rfl]
  | some j =>
    rcases hfr.poolsAdj j rfl with ⟨_, hp⟩ | ⟨_, hp⟩
    · rw [hp]; exact isSome_findFirst_updFirst _ _ _ _ (fun _ => rfl)
    · rw [hp]; exact isSome_findFirst_updFirst _ _ _ _ (fun _ => rfl)

/-- The stored entry of pool `(x, y)` in `σ` carries the reserves the execution computes with. -/
def PoolView (s : State) (adj : Option PoolAdj) (σ : State) (x y : Coin) : Prop :=
  ∀ p, getPool σ x y = some p → poolResAdj s adj x y = some (p.r0, p.r1)

theorem poolSell_pools (σ : State) (payer : Addr) (c0 c1 : Coin) (sellsC0 : Bool) (net out burn : Int) (dest : Addr) :
    (applyAll σ (Move.poolSell payer c0 c1 sellsC0 net out burn false dest).prims).pools =
      updFirst (fun p => p.c0 == c0 && p.c1 == c1)
        (fun p => { p with r0 := p.r0 + (if sellsC0 then net else -out), r1 := p.r1 + (if sellsC0 then -out else net) }) σ.pools := by
  cases sellsC0 <;> rfl

theorem poolResAdj_some_poolRes (s : State) (adj : Option PoolAdj) (x y : Coin) (r : Int × Int) (h : poolResAdj s adj x y = some r) :
    ∃ r', poolRes s x y = some r' := by
  unfold poolResAdj at h
  cases hp : poolRes s x y with
  | none => rw [hp] at h; cases h
  | some r' => exact ⟨r', rfl⟩

/-- What a pool move does to the stored pools: no key appears or disappears, and only the entry of its pool changes. -/
theorem poolSell_frame (σ : State) (payer : Addr) (c0 c1 : Coin) (sellsC0 : Bool) (net out burn : Int) (dest : Addr) :
    (∀ x y, (getPool (applyAll σ (Move.poolSell payer c0 c1 sellsC0 net out burn false dest).prims) x y).isSome = (getPool σ x y).isSome) ∧
    (∀ x y, ¬(x = c0 ∧ y = c1) → getPool (applyAll σ (Move.poolSell payer c0 c1 sellsC0 net out burn false dest).prims) x y = getPool σ x y) := by
  unfold getPool
  rw [poolSell_pools]
  refine ⟨fun x y => isSome_findFirst_updFirst _ _ _ _ (fun _ => rfl), fun x y hxy => ?_⟩
  apply pool_other_aux c0 c1 x y hxy
  intro _; exact ⟨rfl, rfl⟩

/-- The entry a hop `a → b` works on, in the orientation the pool is stored in (`fwd`: as `(a, b)`): it carries the reserves the
    execution computed with. -/
theorem hop_entry (s : State) (adj : Option PoolAdj) (hpok : PoolsOk s) (σ : State) (a b : Coin) (r0 r1 : Int)
    (hkeys : ∀ x y, (getPool σ x y).isSome = (getPool s x y).isSome) (hv1 : PoolView s adj σ a b) (hv2 : PoolView s adj σ b a)
    (hres : poolResAdj s adj a b = some (r0, r1)) {fwd : Bool} (hfwd : (getPool s a b).isSome = fwd) :
    ∃ p, getPool σ (if fwd then a else b) (if fwd then b else a) = some p ∧
      r0 = (if fwd then p.r0 else p.r1) ∧ r1 = (if fwd then p.r1 else p.r0) := by
  -- an entry under a key that `s` has too carries what its view says
  have entry : ∀ x y q0 q1, PoolView s adj σ x y → poolResAdj s adj x y = some (q0, q1) → (getPool s x y).isSome = true →
      ∃ p, getPool σ x y = some p ∧ q0 = p.r0 ∧ q1 = p.r1 := by
    intro x y q0 q1 hv hr hs
    obtain ⟨p, hp⟩ := Option.isSome_iff_exists.mp ((hkeys x y).trans hs)
    cases (hv p hp).symm.trans hr
    exact ⟨p, hp, rfl, rfl⟩
  cases fwd
  · have hflip := poolResAdj_flip s hpok adj a b r0 r1 hres
    obtain ⟨rf, hrf⟩ := poolResAdj_some_poolRes s adj b a _ hflip
    have hsb : (getPool s b a).isSome = true := by
      obtain ⟨f0, f1⟩ := rf
      rcases poolRes_cases hrf with ⟨q, hq, -⟩ | ⟨-, q, hq, -⟩
      · rw [hq]; rfl
      · rw [hq] at hfwd; cases hfwd
    obtain ⟨p, hp, e1, e0⟩ := entry b a r1 r0 hv2 hflip hsb
    exact ⟨p, hp, e0, e1⟩
  · exact entry a b r0 r1 hv1 hres hfwd

theorem sellHop (s : State) (adj : Option PoolAdj) (hpok : PoolsOk s) (σ : State) (who : Addr) (a b : Coin) (amt out : Int) (mv : Move)
    (j : PoolAdj) (hmv : pairSellMove s adj who a b amt 0 false who = .ok (mv, out, j)) (hok : AmountsOk σ)
    (hkeys : ∀ x y, (getPool σ x y).isSome = (getPool s x y).isSome)
    (hv1 : PoolView s adj σ a b) (hv2 : PoolView s adj σ b a) (hbal : amt ≤ balanceOf σ who a) :
    AmountsOk (applyAll σ mv.prims) ∧ out ≤ balanceOf (applyAll σ mv.prims) who b ∧
    (∀ x y, (getPool (applyAll σ mv.prims) x y).isSome = (getPool s x y).isSome) ∧
    (∀ x y, ¬((x = a ∧ y = b) ∨ (x = b ∧ y = a)) → getPool (applyAll σ mv.prims) x y = getPool σ x y) := by
  obtain ⟨-, -, -, -, -, -, -, r0, r1, hres, -⟩ := pairSellMove_shape s adj who a b amt 0 false who mv out j hmv
  obtain ⟨r', hr'⟩ := poolResAdj_some_poolRes s adj a b _ hres
  have hne : a ≠ b := poolRes_ne s hpok a b r' hr'
  have hbw := hok.balances who b
  have hok' := pairSell_keeps hok hmv rfl (fun r0 r1 hr => hop_entry s adj hpok σ a b r0 r1 hkeys hv1 hv2 hr rfl) hbal
  rw [pairSellMove_fwd hmv rfl] at hok' ⊢
  obtain ⟨hk, hoth⟩ := poolSell_frame σ who _ _ (getPool s a b).isSome (amt - com1000 amt) out (com1000 amt) who
  refine ⟨hok', ?_, fun x y => (hk x y).trans (hkeys x y), fun x y hxy => hoth x y fun h => hxy ?_⟩
  -- in either orientation the move's four primitives leave the seller's balance of `b` at the old one plus `out`
  · cases (getPool s a b).isSome <;>
      simp only [Move.prims, Bool.false_eq_true, if_false, if_true, applyAll, List.foldl, apply_balance', Prim.balDelta', hne, and_false,
        and_true] <;> omega
  · generalize (getPool s a b).isSome = fwd at h
    cases fwd
    · exact .inr h
    · exact .inl h

/-! ### Routes -/

/-- The views of the pools a hop over `{a, b}` does not touch stay what they were. -/
theorem poolViews_keep {s : State} {adj : Option PoolAdj} {σ σ1 : State} {a b : Coin} {pr : Coin × Coin}
    (hoth : ∀ x y, ¬((x = a ∧ y = b) ∨ (x = b ∧ y = a)) → getPool σ1 x y = getPool σ x y) (hns : ¬ samePair (a, b) pr)
    (hv : PoolView s adj σ pr.1 pr.2 ∧ PoolView s adj σ pr.2 pr.1) : PoolView s adj σ1 pr.1 pr.2 ∧ PoolView s adj σ1 pr.2 pr.1 := by
  unfold PoolView
  rw [hoth pr.1 pr.2 fun hc => hns (hc.imp (fun h => ⟨h.1.symm, h.2.symm⟩) (fun h => ⟨h.2.symm, h.1.symm⟩)),
    hoth pr.2 pr.1 fun hc => hns (hc.symm.imp (fun h => ⟨h.2.symm, h.1.symm⟩) (fun h => ⟨h.1.symm, h.2.symm⟩))]
  exact hv

theorem routeSell_keeps (s : State) (adj : Option PoolAdj) (who : Addr) (hpok : PoolsOk s) :
    ∀ (rest : List Coin) (a : Coin) (value : Int) (ms : List Move) (out : Int) (σ : State),
      routeSellExec s adj who a rest value = .ok (ms, out) → AmountsOk σ →
      (∀ x y, (getPool σ x y).isSome = (getPool s x y).isSome) →
      (∀ pr ∈ pairsOf a rest, PoolView s adj σ pr.1 pr.2 ∧ PoolView s adj σ pr.2 pr.1) →
      value ≤ balanceOf σ who a → RouteDistinct a rest → AmountsOk (applyAll σ (planOf ms)) := by
  intro rest
  induction rest with
  | nil =>
    intro a value ms out σ h hok _ _ _ _
    cases h
    exact hok
  | cons b t ih =>
    intro a value ms out σ h hok hkeys hviews hbal hdist
    obtain ⟨mv, out1, j, ms', hm, hrec, rfl⟩ := routeSellExec_cons h
    rw [planOf_cons, applyAll_append]
    have hv := hviews (a, b) (List.mem_cons_self ..)
    obtain ⟨hok1, hb1, hk1, hoth⟩ := sellHop s adj hpok σ who a b value out1 mv j hm hok hkeys hv.1 hv.2 hbal
    have hd := List.pairwise_cons.mp hdist
    exact ih b out1 ms' _ _ hrec hok1 hk1
      (fun pr hpr => poolViews_keep hoth (hd.1 pr hpr) (hviews pr (List.mem_cons_of_mem _ hpr))) hb1 hd.2

/-! ### SellSwapPool (23) -/

theorem sellPool_typed (hok : AmountsOk s) (hsorted : PoolsSorted s) (hv : 0 ≤ t.int "d.ValueToSell")
    (h : runSellPool P o s t price = .ok (.ok rd)) : Checked P o s price rd ∧ BodyKeeps s rd := by
  simp only [runSellPool] at h
  split at h
  · cases h
  obtain ⟨com, hcom, h⟩ := withCom_ready_iff.mp h
  split at h
  · cases h
  · cases h
  next x hcheck =>
  simp only [guard_ready_iff, pure_ready_iff] at h
  obtain ⟨h1, h2, rfl⟩ := h
  have hf := funds_sum_in_coin' hv h1 h2
  refine ⟨⟨hcom, hf.1⟩, fun s1 paid body tags hpay hfr hok1 he => ?_⟩
  simp only at hpay hfr he
  split at he
  · cases he
  next ms out hx =>
  cases he
  exact routeSell_keeps s paid.adj t.sender (poolsOk_of s hsorted hok) _ _ _ _ _ s1 hx hok1
    (frame_keys s s1 t.sender t.gasCoin com paid.adj hfr)
    (fun pr _ => ⟨getPool_frame s s1 t.sender t.gasCoin com paid.adj hfr hsorted _ _, getPool_frame s s1 t.sender t.gasCoin com paid.adj hfr hsorted _ _⟩)
    (spend_after_fee s s1 t.sender t.gasCoin _ com paid.adj _ hfr hf.2)
    (routeDistinct_of_ids s hsorted _ _ (routeSellCheck_ids s _ _ _ _ _ _ _ _ hcheck).1)

/-! ### SellAllSwapPool (25) -/

theorem sellAllPool_typed (hok : AmountsOk s) (hsorted : PoolsSorted s)
    (h : runSellAllPool P o s t price = .ok (.ok rd)) : Checked P o s price rd ∧ BodyKeeps s rd := by
  simp only [runSellAllPool] at h
  split at h
  · cases h
  simp only [withCom_ready_iff, guard_ready_iff, Int.not_le] at h
  obtain ⟨com, hcom, hf, h⟩ := h
  split at h
  · cases h
  · cases h
  next x hcheck =>
  cases pure_ready_iff.mp h
  refine ⟨⟨hcom, by simp only; omega⟩, fun s1 paid body tags hpay hfr hok1 he => ?_⟩
  simp only at hpay hfr he
  split at he
  · cases he
  next ms out hx =>
  cases he
  have hbal := hfr.bal t.sender ((coinList (t.str "d.Coins")).headD 0)
  simp only [and_self, if_true] at hbal
  exact routeSell_keeps s paid.adj t.sender (poolsOk_of s hsorted hok) _ _ _ _ _ s1 hx hok1
    (frame_keys s s1 t.sender _ com paid.adj hfr)
    (fun pr _ => ⟨getPool_frame s s1 t.sender _ com paid.adj hfr hsorted _ _, getPool_frame s s1 t.sender _ com paid.adj hfr hsorted _ _⟩)
    hbal (routeDistinct_of_ids s hsorted _ _ (routeSellCheck_ids s _ _ _ _ _ _ _ _ hcheck).1)

end Minter
