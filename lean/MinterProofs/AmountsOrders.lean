import MinterProofs.AmountsValue
/-
  C02: AddLimitOrder (35), RemoveLimitOrder (36), CreateSwapPool (34) — every commission route.
-/
namespace Minter

variable {P : Params} {o : Oracle} {s : State} {t : TxIn} {price : Int} {rd : Ready}

/-! ### AddLimitOrder (35) -/

theorem addOrder_typed {block : Nat} (hP : 0 ≤ P.minOrderVolume)
    (h : runAddOrder P o s block t price = .ok (.ok rd)) : Checked P o s price rd ∧ BodyKeeps s rd := by
  simp only [runAddOrder, guard_ready_iff, withCom_ready_iff] at h
  obtain ⟨-, hvol, -, com, hcom, h1, h2, h⟩ := h
  simp only [Bool.or_eq_true, decide_eq_true_eq, not_or, Int.not_lt] at hvol
  have hf := funds_sum_in_coin' (by omega) h1 h2
  split at h
  · cases h
  simp only [guard_ready_iff, ready_iff] at h
  obtain ⟨-, rfl⟩ := h
  refine ready_typed hcom hf.1 fun s1 adj hfr hok1 => ?_
  rw [planOf_cons, planOf_single, prims_admin rfl, applyAll_append]
  refine AmountsOk.admin (p := .setNextOrder _) ?_ rfl
  have hb := spend_after_fee s s1 t.sender t.gasCoin _ com adj _ hfr hf.2
  split
  · exact orderAdd_safe s1 hok1 _ _ (by simp only; omega) (by simp only; omega) hb
  · exact orderAdd_safe s1 hok1 _ _ (by simp only; omega) (by simp only; omega) hb

/-! ### RemoveLimitOrder (36) -/

theorem removeOrder_typed {block : Nat} (hok : AmountsOk s)
    (h : runRemoveOrder P o s block t price = .ok (.ok rd)) : Checked P o s price rd ∧ BodyKeeps s rd := by
  simp only [runRemoveOrder, withCom_ready_iff, guard_ready_iff] at h
  obtain ⟨com, hcom, hf, h⟩ := h
  split at h
  · cases h
  next ord hord =>
  simp only [guard_ready_iff] at h
  obtain ⟨-, h⟩ := h
  split at h
  · cases h
  cases ready_iff.mp h
  refine ready_typed hcom (Int.not_lt.mp hf) fun s1 adj hfr hok1 => ?_
  rw [planOf_single]
  have hv := hok.orders ord (findFirst_mem _ _ _ hord).1
  apply orderRemove_safe s1 hok1
  unfold Order.escrowValue
  split <;> omega

/-! ### CreateSwapPool (34) -/

theorem startingSupply_pos (a b : Int) (h : 0 < startingSupply a b) : 0 < a * b := by
  unfold startingSupply at h
  by_contra hc
  have : (a * b).toNat = 0 := by omega
  rw [this] at h
  simp at h

/-- A new pool: both deposits are positive and covered, the pool token's supply is within its maximum. -/
theorem poolCreate_safe (s : State) (hok : AmountsOk s) (a : Addr) (p : Pool) (lp : CoinInfo)
    (h0 : 0 < p.r0) (h1 : 0 < p.r1) (hne : p.c0 ≠ p.c1) (hb0 : p.r0 ≤ balanceOf s a p.c0) (hb1 : p.r1 ≤ balanceOf s a p.c1)
    (hl : minLiquidity ≤ lp.volume) (hmax : lp.volume ≤ lp.maxSupply) (hr : lp.reserve = 0) :
    AmountsOk (applyAll s (Move.poolCreate a p lp).prims) := by
  have hm : (0 : Int) ≤ minLiquidity := by decide
  simp only [Move.prims]
  split
  · exact hok
  · exact (((((hok.prim (p := .createPool p) ⟨h0, h1⟩ nofun).debit hb0).debit
      (by rw [balance_addBal_ne _ _ _ _ _ hne]; exact hb1)).prim (p := .createCoin lp)
      ⟨Int.le_trans hm hl, Int.le_of_eq hr.symm, hmax⟩ nofun).credit _ _ (Int.sub_nonneg_of_le hl)).credit _ _ hm

theorem createPool_typed (hv0 : 0 ≤ t.int "d.Volume0") (hv1 : 0 ≤ t.int "d.Volume1")
    (hmax : startingSupply (t.int "d.Volume0") (t.int "d.Volume1") ≤ P.maxSupply)
    (h : runCreatePool P o s t price = .ok (.ok rd)) : Checked P o s price rd ∧ BodyKeeps s rd := by
  simp only [runCreatePool, guard_ready_iff, withCom_ready_iff, ready_iff] at h
  obtain ⟨hne, -, -, -, com, hcom, hliq, h0, h1, hg, rfl⟩ := h
  have hm : minLiquidity = 1000 := rfl
  have hne : t.nat "d.Coin0" ≠ t.nat "d.Coin1" := by simpa using hne
  have hf0 := funds_sum_in_coin hg h0
  have hf1 := funds_sum_in_coin hg h1
  refine ready_typed hcom hf0.1 fun s1 adj hfr hok1 => ?_
  rw [planOf_single]
  have hmul := startingSupply_pos (t.int "d.Volume0") (t.int "d.Volume1") (by omega)
  have hpos := And.intro (pos_of_mul_pos_left hmul hv1) (pos_of_mul_pos_right hmul hv0)
  have hb0 := spend_after_fee s s1 t.sender t.gasCoin _ com adj _ hfr hf0.2
  have hb1 := spend_after_fee s s1 t.sender t.gasCoin _ com adj _ hfr hf1.2
  unfold sorted2
  split
  · exact poolCreate_safe s1 hok1 _ _ _ hpos.1 hpos.2 hne hb0 hb1 (by simp only; omega) hmax rfl
  · exact poolCreate_safe s1 hok1 _ _ _ hpos.2 hpos.1 (fun e => hne e.symm) hb1 hb0 (by simp only; omega) hmax rfl

end Minter
