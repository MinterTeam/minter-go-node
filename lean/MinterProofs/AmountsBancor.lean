import MinterProofs.AmountsValue
/-
  C02: bancor conversions SellCoin (2), BuyCoin (4), SellAllCoin (3) under the oracle envelope `OracleSound` — every commission route.
-/
namespace Minter

variable {P : Params} {o : Oracle} {s : State} {t : TxIn} {price : Int} {rd : Ready}

theorem getCoin_addBal (s : State) (a : Addr) (c c' : Coin) (v : Int) : getCoin ((Prim.addBal a c v).apply s) c' = getCoin s c' := rfl

theorem bview_frame (s s1 : State) (payer : Addr) (gas : Coin) (com : Com) (adj : Option PoolAdj) (c : Coin)
    (hfr : FeeFrame s s1 payer gas com adj) (hex : (getCoin s c).isSome = true) :
    bview s1 c = if c = gas ∧ com.fromPool = false ∧ gas ≠ 0 then (bview s c).afterCom com else bview s c := by
  obtain ⟨ci, hci⟩ := Option.isSome_iff_exists.mp hex
  have h1 := frame_getCoin s s1 payer gas com adj c hfr
  by_cases hc : c = gas ∧ com.fromPool = false ∧ gas ≠ 0
  · rw [if_pos hc] at h1 ⊢
    rw [hci] at h1
    simp only [bview, h1, hci, Option.map, BView.afterCom]
  · rw [if_neg hc] at h1 ⊢
    simp only [bview, h1]

theorem getCoin_isSome_of_exists (s : State) (c : Coin) (h : coinExists s c = true) (hc : c ≠ 0) : (getCoin s c).isSome = true :=
  Option.isSome_iff_exists.mpr (getCoin_of_exists s c h hc)

theorem bancorBasic_exists (s : State) (sell buy : Coin) (h : bancorBasic s sell buy = none) :
    (sell ≠ 0 → (getCoin s sell).isSome = true) ∧ (buy ≠ 0 → (getCoin s buy).isSome = true) ∧ sell ≠ buy := by
  simp only [bancorBasic, ite_some_eq_none, Bool.not_eq_true', Bool.not_eq_false, beq_iff_eq, and_true] at h
  exact ⟨getCoin_isSome_of_exists s _ h.1, getCoin_isSome_of_exists s _ h.2.2.1, h.2.2.2.2⟩

/-- The `DummyCoin` adjustment applies to whichever of the two coins is a bancor-paid gas coin (the two coins differ). -/
theorem bancorViews_eq (s : State) (gas sell buy : Coin) (com : Com) (hne : sell ≠ buy) :
    bancorViews s gas sell buy com =
      (if sell = gas ∧ com.fromPool = false ∧ gas ≠ 0 then (bview s sell).afterCom com else bview s sell,
       if buy = gas ∧ com.fromPool = false ∧ gas ≠ 0 then (bview s buy).afterCom com else bview s buy) := by
  simp only [bancorViews, Bool.and_eq_true, Bool.not_eq_true', bne_iff_ne, beq_iff_eq]
  by_cases hc : com.fromPool = false ∧ gas ≠ 0
  · rw [if_pos hc]
    by_cases hs : gas = sell
    · subst hs
      simp only [if_true, true_and, if_pos hc, hne.symm, false_and, if_false]
    · by_cases hb : gas = buy
      · subst hb
        simp only [if_true, true_and, if_pos hc, if_neg hs, Ne.symm hs, false_and, if_false]
      · simp only [if_neg hs, if_neg hb, Ne.symm hs, Ne.symm hb, false_and, if_false]
  · simp only [hc, and_false, if_false]

/-- The views the conversion formulas ran on are the registry entries as they are after the commission. -/
theorem bancorViews_frame (s s1 : State) (payer : Addr) (gas sell buy : Coin) (com : Com) (adj : Option PoolAdj)
    (hfr : FeeFrame s s1 payer gas com adj) (hne : sell ≠ buy)
    (hs : sell ≠ 0 → (getCoin s sell).isSome = true) (hb : buy ≠ 0 → (getCoin s buy).isSome = true) :
    (sell ≠ 0 → bview s1 sell = (bancorViews s gas sell buy com).1) ∧ (buy ≠ 0 → bview s1 buy = (bancorViews s gas sell buy com).2) := by
  rw [bancorViews_eq s gas sell buy com hne]
  exact ⟨fun h0 => bview_frame s s1 payer gas com adj sell hfr (hs h0), fun h0 => bview_frame s s1 payer gas com adj buy hfr (hb h0)⟩

/-- The supply and the reserve of one coin move together: safe when the new supply stays within `[0, maxSupply]` and the new
    reserve is not negative. -/
theorem AmountsOk.curve {σ : State} (hok : AmountsOk σ) (c : Coin) (dv dr : Int)
    (h : ∀ ci, getCoin σ c = some ci → 0 ≤ ci.volume + dv ∧ ci.volume + dv ≤ ci.maxSupply ∧ 0 ≤ ci.reserve + dr) :
    AmountsOk (applyAll σ [.addVolume c dv, .addReserve c dr]) := by
  refine (hok.addVolume fun ci hc => ⟨(h ci hc).1, (h ci hc).2.1⟩).prim (p := .addReserve c dr) (optProp_iff.mpr fun ci hc => ?_) nofun
  obtain ⟨c0, h0, rfl⟩ := Option.map_eq_some_iff.mp ((getCoin_addVolume_same _ c _).symm.trans hc)
  exact (h c0 h0).2.2

/-- A bancor conversion is safe when what is sold is covered by the balance, by the volume and (its base value) by the reserve of the
    coin sold, and what is bought fits under the maximal supply of the coin bought. -/
theorem bancor_safe (s : State) (hok : AmountsOk s) (a : Addr) (sell buy : Coin) (sellAmt buyAmt bip : Int) (hne : sell ≠ buy)
    (h0 : 0 ≤ bip) (hs0 : 0 ≤ sellAmt) (hb0 : 0 ≤ buyAmt)
    (hbal : sellAmt ≤ balanceOf s a sell) (hsell0 : sell = 0 → bip = sellAmt)
    (hsell : sell ≠ 0 → sellAmt ≤ (bview s sell).volume ∧ bip ≤ (bview s sell).reserve)
    (hbuy : buy ≠ 0 → (bview s buy).volume + buyAmt ≤ (bview s buy).maxSupply) :
    AmountsOk (applyAll s (Move.bancor a sell sellAmt buy buyAmt bip).prims) := by
  have hnes : buy ≠ sell := fun e => hne e.symm
  simp only [Move.prims, applyAll_append]
  -- the second half: what is bought is credited and enters the volume and the reserve of `buy`, whose entry the first half left alone
  suffices h : ∀ σ, AmountsOk σ ∧ getCoin σ buy = getCoin s buy →
      AmountsOk (applyAll σ (if buy = 0 then [.addBal a 0 bip] else [.addBal a buy buyAmt, .addVolume buy buyAmt, .addReserve buy bip])) by
    refine h _ ?_
    -- the first half: what is sold leaves the balance, the volume and the reserve of `sell`
    split
    · next hs => exact ⟨hok.debit (hs ▸ hsell0 hs ▸ hbal), rfl⟩
    · next hs =>
      obtain ⟨hs2, hs3⟩ := hsell hs
      refine ⟨(hok.debit hbal).curve sell (-sellAmt) (-bip) fun ci hc => ?_,
        (getCoin_addReserve_ne _ _ _ _ hnes).trans (getCoin_addVolume_ne _ _ _ _ hnes)⟩
      have hc : getCoin s sell = some ci := hc
      have := hok.coins ci (findFirst_mem _ _ _ hc).1
      simp only [bview, hc] at hs2 hs3
      exact ⟨by omega, by omega, by omega⟩
  intro σ ⟨hok1, hbv⟩
  split
  · exact hok1.credit a 0 h0
  · next hb =>
    have hmax := hbuy hb
    refine (hok1.credit a buy hb0).curve buy buyAmt bip fun ci hc => ?_
    have hc : getCoin σ buy = some ci := hc
    have := hok1.coins ci (findFirst_mem _ _ _ hc).1
    simp only [bview, ← hbv, hc] at hmax
    exact ⟨by omega, hmax, by omega⟩

/-! ### What the quotes guarantee under the envelope -/

theorem sellStep2_sound (o : Oracle) (buy : Coin) (to_ : BView) (x bip got : Int) (ho : OracleSound o) (hx : 0 ≤ x)
    (h : sellStep2 o buy to_ x = .ok (.ok (bip, got))) :
    bip = x ∧ 0 ≤ got ∧ (buy ≠ 0 → to_.volume + got ≤ to_.maxSupply) := by
  unfold sellStep2 at h
  split at h
  · next hb => cases h; exact ⟨rfl, hx, fun hne => absurd (by simpa using hb) hne⟩
  · split at h
    · cases h
    · next r ha =>
      split at h
      · cases h
      · next hmax =>
        cases h
        exact ⟨rfl, ho.nonneg _ _ (ask_ok _ _ _ ha), fun _ => by omega⟩

theorem saleReturnAndCheck_sound (P : Params) (o : Oracle) (v : BView) (value r : Int) (ho : OracleSound o)
    (h : saleReturnAndCheck P o v value = .ok (.ok r)) : value ≤ v.volume ∧ 0 ≤ r ∧ P.minReserve ≤ v.reserve - r := by
  unfold saleReturnAndCheck at h
  split at h
  · cases h
  · next hvol =>
    split at h
    · cases h
    · next x ha =>
      split at h
      · cases h
      · next hmin =>
        cases h
        exact ⟨by omega, ho.nonneg _ _ (ask_ok _ _ _ ha), by omega⟩

theorem sellQuote_sound (P : Params) (o : Oracle) (sell buy : Coin) (from_ to_ : BView) (value bip got : Int)
    (ho : OracleSound o) (hP : 0 ≤ P.minReserve) (hv : 0 ≤ value)
    (h : sellQuote P o sell buy from_ to_ value = .ok (.ok (bip, got))) :
    0 ≤ bip ∧ 0 ≤ got ∧ (sell = 0 → bip = value) ∧ (sell ≠ 0 → value ≤ from_.volume ∧ bip ≤ from_.reserve) ∧
    (buy ≠ 0 → to_.volume + got ≤ to_.maxSupply) := by
  unfold sellQuote at h
  split at h
  · next hs =>
    obtain ⟨h1, h2, h3⟩ := sellStep2_sound o buy to_ value bip got ho hv h
    exact ⟨by omega, h2, fun _ => h1, fun hne => absurd (by simpa using hs) hne, h3⟩
  · next hs =>
    split at h
    · cases h
    · cases h
    · next r hr =>
      obtain ⟨s1, s2, s3⟩ := saleReturnAndCheck_sound P o from_ value r ho hr
      obtain ⟨h1, h2, h3⟩ := sellStep2_sound o buy to_ r bip got ho s2 h
      exact ⟨by omega, h2, fun e => absurd (by simpa using e) hs, fun _ => ⟨s1, by omega⟩, h3⟩

theorem buyStep1_sound (o : Oracle) (buy : Coin) (to_ : BView) (want bip : Int) (ho : OracleSound o) (hw : 0 ≤ want)
    (h : buyStep1 o buy to_ want = .ok (.ok bip)) :
    0 ≤ bip ∧ (buy = 0 → bip = want) ∧ (buy ≠ 0 → to_.volume + want ≤ to_.maxSupply) := by
  unfold buyStep1 at h
  split at h
  · next hb => cases h; exact ⟨hw, fun _ => rfl, fun hne => absurd (by simpa using hb) hne⟩
  · next hb =>
    split at h
    · cases h
    · next hmax =>
      split at h
      · cases h
      · next r ha =>
        cases h
        exact ⟨ho.nonneg _ _ (ask_ok _ _ _ ha), fun e => absurd (by simpa using e) hb, fun _ => by omega⟩

theorem buyStep2_sound (P : Params) (o : Oracle) (sell : Coin) (from_ : BView) (bip pay : Int) (ho : OracleSound o)
    (hb : 0 ≤ bip) (h : buyStep2 P o sell from_ bip = .ok (.ok pay)) :
    0 ≤ pay ∧ (sell = 0 → pay = bip) ∧ (sell ≠ 0 → pay ≤ from_.volume ∧ bip ≤ from_.reserve) := by
  unfold buyStep2 at h
  split at h
  · next hs => cases h; exact ⟨hb, fun _ => rfl, fun hne => absurd (by simpa using hs) hne⟩
  · next hs =>
    unfold saleAmountAndCheck at h
    split at h
    · cases h
    · next hres =>
      split at h
      · cases h
      · next r ha =>
        split at h
        · cases h
        · cases h
          have hv := ask_ok _ _ _ ha
          exact ⟨ho.nonneg _ _ hv, fun e => absurd (by simpa using e) hs,
            fun _ => ⟨ho.saleAmountLeVolume _ _ _ _ _ hv hb (by omega), by omega⟩⟩

/-! ### SellCoin (2) -/

/-- What `sellQuote` answered is within the bounds `bancor_safe` asks for, once the views it ran on are those of the state after the
    commission (`v1`, `v2`) and the amount sold is covered by the balance there. -/
theorem sellQuote_safe (P : Params) (o : Oracle) (s1 : State) (hok1 : AmountsOk s1) (a : Addr) (sell buy : Coin) (from_ to_ : BView)
    (value bip got : Int) (ho : OracleSound o) (hP : 0 ≤ P.minReserve) (hv : 0 ≤ value) (hne : sell ≠ buy)
    (hq : sellQuote P o sell buy from_ to_ value = .ok (.ok (bip, got)))
    (v1 : sell ≠ 0 → bview s1 sell = from_) (v2 : buy ≠ 0 → bview s1 buy = to_) (hb : value ≤ balanceOf s1 a sell) :
    AmountsOk (applyAll s1 (Move.bancor a sell value buy got bip).prims) := by
  obtain ⟨q0, q1, q2, q3, q4⟩ := sellQuote_sound P o _ _ _ _ _ _ _ ho hP hv hq
  exact bancor_safe s1 hok1 _ _ _ _ _ _ hne q0 hv q1 hb q2 (fun hs0 => v1 hs0 ▸ q3 hs0) (fun hb0 => v2 hb0 ▸ q4 hb0)

theorem sellCoin_typed (ho : OracleSound o) (hP : 0 ≤ P.minReserve) (hv : 0 ≤ t.int "d.ValueToSell")
    (h : runSellCoin P o s t price = .ok (.ok rd)) : Checked P o s price rd ∧ BodyKeeps s rd := by
  simp only [runSellCoin] at h
  split at h
  · cases h
  next hbasic =>
  simp only [withCom_ready_iff, guard_ready_iff] at h
  obtain ⟨com, hcom, h1, h2, h⟩ := h
  split at h
  · cases h
  · cases h
  next bip got hq =>
  simp only [guard_ready_iff, ready_iff] at h
  obtain ⟨-, rfl⟩ := h
  have hf := funds_sum_in_gas hv h1 h2
  obtain ⟨hexs, hexb, hne⟩ := bancorBasic_exists s _ _ hbasic
  refine ready_typed hcom hf.1 fun s1 adj hfr hok1 => ?_
  rw [planOf_single]
  obtain ⟨v1, v2⟩ := bancorViews_frame s s1 t.sender t.gasCoin _ _ com adj hfr hne hexs hexb
  exact sellQuote_safe P o s1 hok1 _ _ _ _ _ _ _ _ ho hP hv hne hq v1 v2 (spend_after_fee s s1 t.sender t.gasCoin _ com adj _ hfr hf.2)

/-! ### BuyCoin (4) -/

theorem buyCoin_typed (ho : OracleSound o) (hv : 0 ≤ t.int "d.ValueToBuy")
    (h : runBuyCoin P o s t price = .ok (.ok rd)) : Checked P o s price rd ∧ BodyKeeps s rd := by
  simp only [runBuyCoin] at h
  split at h
  · cases h
  next hbasic =>
  obtain ⟨com, hcom, h⟩ := withCom_ready_iff.mp h
  split at h
  · cases h
  · cases h
  next bip hq1 =>
  split at h
  · cases h
  · cases h
  next pay hq2 =>
  simp only [guard_ready_iff, ready_iff] at h
  obtain ⟨-, h1, h2, rfl⟩ := h
  obtain ⟨p0, p1, p2⟩ := buyStep1_sound o _ _ _ _ ho hv hq1
  obtain ⟨r0, r1, r2⟩ := buyStep2_sound P o _ _ _ _ ho p0 hq2
  obtain ⟨hexs, hexb, hne⟩ := bancorBasic_exists s _ _ hbasic
  have hf := funds_sum_in_gas r0 h1 h2
  refine ready_typed hcom hf.1 fun s1 adj hfr hok1 => ?_
  rw [planOf_single]
  obtain ⟨v1, v2⟩ := bancorViews_frame s s1 t.sender t.gasCoin _ _ com adj hfr hne hexs hexb
  exact bancor_safe s1 hok1 _ _ _ _ _ _ hne p0 r0 hv (spend_after_fee s s1 t.sender t.gasCoin _ com adj _ hfr hf.2)
    (fun hs0 => (r1 hs0).symm) (fun hs0 => v1 hs0 ▸ r2 hs0) (fun hb0 => v2 hb0 ▸ p2 hb0)

/-! ### SellAllCoin (3) -/

theorem sellAllCoin_typed (ho : OracleSound o) (hP : 0 ≤ P.minReserve)
    (h : runSellAllCoin P o s t price = .ok (.ok rd)) : Checked P o s price rd ∧ BodyKeeps s rd := by
  simp only [runSellAllCoin] at h
  split at h
  · cases h
  next hbasic =>
  simp only [withCom_ready_iff, guard_ready_iff, Int.not_le] at h
  obtain ⟨com, hcom, hf, -, h⟩ := h
  split at h
  · cases h
  · cases h
  next bip got hq =>
  simp only [guard_ready_iff, pure_ready_iff] at h
  obtain ⟨-, rfl⟩ := h
  obtain ⟨hexs, hexb, hne⟩ := bancorBasic_exists s _ _ hbasic
  refine ready_typed hcom (Int.le_of_lt hf) fun s1 adj hfr hok1 => ?_
  rw [planOf_single]
  have hbal := hfr.bal t.sender (t.nat "d.CoinToSell")
  simp only [and_self, if_true] at hbal
  refine sellQuote_safe P o s1 hok1 _ _ _ _ _ _ _ _ ho hP (by omega) hne hq (fun h0 => ?_) (fun h0 => ?_) hbal
  · rw [bview_frame s s1 t.sender _ com adj _ hfr (hexs h0)]
    unfold sellAllView
    cases hfp : com.fromPool <;> simp [h0]
  · rw [bview_frame s s1 t.sender _ com adj _ hfr (hexb h0)]
    exact if_neg fun h => hne h.1.symm

end Minter
