import MinterModel.Ledger
/-
  The base everything else stands on: the lemmas about `Bag`, `sumBy`, `findFirst` / `updFirst` / `eraseFirst` that the other files
  share; then the accounting: every primitive changes holdings / volume / side pots / a balance by exactly its declared effect
  (`apply_*`), hence a checked plan by the sum of the effects (`checked_sum`; for the three quantities of C01 together `checked_books`),
  and a `Balanced` plan keeps the books (`balanced_books`; with `Conserved`, `balanced_preserves`).
-/
namespace Minter

namespace Bag
variable {κ : Type} [DecidableEq κ]

theorem sumIf_add (p : κ → Bool) (m : Bag κ) (k : κ) (v : Int) :
    sumIf p (add m k v) = sumIf p m + (if p k then v else 0) := by
  induction m with
  | nil => simp [add, sumIf]
  | cons e t ih =>
    obtain ⟨k', v'⟩ := e
    simp only [add]
    split
    · next h => subst h; simp only [sumIf]; split <;> omega
    · simp only [sumIf, ih]; omega

theorem get_add (m : Bag κ) (k k' : κ) (v : Int) :
    get (add m k v) k' = get m k' + (if k = k' then v else 0) := by
  simp only [get, sumIf_add]
  by_cases h : k = k' <;> simp [h]

theorem total_add (m : Bag κ) (k : κ) (v : Int) : total (add m k v) = total m + v := by
  simp [total, sumIf_add]

omit [DecidableEq κ] in
theorem nonneg_mem (m : Bag κ) (h : nonneg m = true) : ∀ e ∈ m, 0 ≤ e.2 := by
  induction m with
  | nil => intro e he; cases he
  | cons x t ih =>
    rw [nonneg, Bool.and_eq_true, decide_eq_true_eq] at h
    exact List.forall_mem_cons.mpr ⟨h.1, ih h.2⟩

end Bag

/-! ### sumBy -/

theorem sumBy_cons {α : Type} (f : α → Int) (x : α) (t : List α) : sumBy f (x :: t) = f x + sumBy f t := rfl
theorem sumBy_nil {α : Type} (f : α → Int) : sumBy f ([] : List α) = 0 := rfl

theorem sumBy_append {α : Type} (f : α → Int) (l₁ l₂ : List α) :
    sumBy f (l₁ ++ l₂) = sumBy f l₁ + sumBy f l₂ := by
  induction l₁ with
  | nil => exact (Int.zero_add _).symm
  | cons x t ih => rw [List.cons_append, sumBy_cons, ih, sumBy_cons, Int.add_assoc]

theorem sumBy_single {α : Type} (f : α → Int) (x : α) : sumBy f [x] = f x := Int.add_zero _

theorem sumBy_map {α β : Type} (g : β → Int) (f : α → β) (l : List α) : sumBy g (l.map f) = sumBy (fun x => g (f x)) l := by
  induction l with
  | nil => rfl
  | cons x t ih => exact congrArg (g (f x) + ·) ih

theorem sumBy_congr_mem {α : Type} (f g : α → Int) (l : List α) (h : ∀ x ∈ l, f x = g x) : sumBy f l = sumBy g l := by
  induction l with
  | nil => rfl
  | cons x t ih =>
    rw [sumBy_cons, sumBy_cons, h x List.mem_cons_self, ih fun y hy => h y (List.mem_cons_of_mem _ hy)]

theorem sumBy_congr {α : Type} (f g : α → Int) (l : List α) (h : ∀ x, f x = g x) : sumBy f l = sumBy g l :=
  sumBy_congr_mem f g l fun x _ => h x

theorem sumBy_add {α : Type} (f g : α → Int) (l : List α) : sumBy (fun x => f x + g x) l = sumBy f l + sumBy g l := by
  induction l with
  | nil => rfl
  | cons x t ih => simp only [sumBy_cons, ih]; omega

theorem sumBy_sub {α : Type} (f g : α → Int) (l : List α) : sumBy (fun x => f x - g x) l = sumBy f l - sumBy g l := by
  induction l with
  | nil => rfl
  | cons x t ih => simp only [sumBy_cons, ih]; omega

theorem sumBy_zero {α : Type} (l : List α) : sumBy (fun _ => (0 : Int)) l = 0 := by
  induction l with
  | nil => rfl
  | cons _ _ ih => exact (Int.zero_add _).trans ih

theorem sumBy_eq_zero {α : Type} {f : α → Int} {l : List α} (h : ∀ x ∈ l, f x = 0) : sumBy f l = 0 :=
  (sumBy_congr_mem f (fun _ => 0) l h).trans (sumBy_zero l)

theorem sumBy_nonneg {α : Type} (f : α → Int) (l : List α) (h : ∀ x ∈ l, 0 ≤ f x) : 0 ≤ sumBy f l := by
  induction l with
  | nil => exact Int.le_refl _
  | cons x t ih => exact Int.add_nonneg (h x List.mem_cons_self) (ih fun y hy => h y (List.mem_cons_of_mem _ hy))

theorem sumBy_flatMap {α β : Type} (f : β → Int) (g : α → List β) (l : List α) :
    sumBy f (l.flatMap g) = sumBy (fun x => sumBy f (g x)) l := by
  induction l with
  | nil => rfl
  | cons x t ih => simp only [List.flatMap_cons, sumBy_append, sumBy, ih]

theorem sumBy_le {α : Type} (f g : α → Int) (l : List α) (h : ∀ x ∈ l, f x ≤ g x) : sumBy f l ≤ sumBy g l := by
  induction l with
  | nil => exact Int.le_refl _
  | cons x t ih => exact Int.add_le_add (h x List.mem_cons_self) (ih fun y hy => h y (List.mem_cons_of_mem _ hy))

theorem sumBy_pos {α : Type} {f : α → Int} {l : List α} (hne : l ≠ []) (h : ∀ x ∈ l, 0 < f x) : 0 < sumBy f l := by
  cases l with
  | nil => exact absurd rfl hne
  | cons x t =>
    exact Int.add_pos_of_pos_of_nonneg (h x List.mem_cons_self)
      (sumBy_nonneg _ _ fun y hy => Int.le_of_lt (h y (List.mem_cons_of_mem _ hy)))

theorem sumBy_mul_const {α : Type} (f : α → Int) (k : Int) (l : List α) : sumBy (fun x => f x * k) l = sumBy f l * k := by
  induction l with
  | nil => simp [sumBy]
  | cons x t ih => simp only [sumBy, ih]; rw [Int.add_mul]

theorem sumBy_const_mul {α : Type} (f : α → Int) (k : Int) (l : List α) : sumBy (fun x => k * f x) l = k * sumBy f l := by
  simp only [Int.mul_comm k]
  exact sumBy_mul_const f k l

theorem sumBy_perm {α : Type} (f : α → Int) {l₁ l₂ : List α} (h : l₁.Perm l₂) : sumBy f l₁ = sumBy f l₂ := by
  induction h with
  | nil => rfl
  | cons x _ ih => simp only [sumBy, ih]
  | swap x y l => simp only [sumBy]; omega
  | trans _ _ ih₁ ih₂ => rw [ih₁, ih₂]

theorem sumBy_const_one {α : Type} (l : List α) : sumBy (fun _ => (1 : Int)) l = l.length := by
  induction l with
  | nil => rfl
  | cons x t ih => simp only [sumBy, ih, List.length_cons]; omega

theorem sumBy_set {α : Type} (f : α → Int) (d : α) (l : List α) (i : Nat) (x : α) (h : i < l.length) :
    sumBy f (l.set i x) + f (l.getD i d) = sumBy f l + f x := by
  induction l generalizing i with
  | nil => cases h
  | cons y t ih =>
    cases i with
    | zero =>
      show f x + sumBy f t + f y = f y + sumBy f t + f x
      omega
    | succ k =>
      have := ih k (Nat.lt_of_succ_lt_succ h)
      show f y + sumBy f (t.set k x) + f (t.getD k d) = f y + sumBy f t + f x
      omega

theorem sumBy_filter_or {α : Type} (f : α → Int) (p q : α → Bool) (l : List α) (h : ∀ x, p x = true → q x = false) :
    sumBy f (l.filter (fun x => p x || q x)) = sumBy f (l.filter p) + sumBy f (l.filter q) := by
  induction l with
  | nil => rfl
  | cons x t ih =>
    cases hp : p x
    · cases hq : q x <;> simp only [List.filter_cons, hp, hq, Bool.or_self, Bool.false_or, Bool.false_eq_true, if_false, if_true, sumBy, ih]
      omega
    · simp only [List.filter_cons, hp, h x hp, Bool.true_or, Bool.false_eq_true, if_false, if_true, sumBy, ih]
      omega

theorem sumBy_filter_split {α : Type} (f : α → Int) (p : α → Bool) (l : List α) :
    sumBy f l = sumBy f (l.filter p) + sumBy f (l.filter (fun x => !p x)) := by
  induction l with
  | nil => rfl
  | cons x t ih =>
    by_cases h : p x <;> simp only [List.filter, h, Bool.not_true, Bool.not_false, sumBy_cons, ih] <;> omega

/-! ### The first match of a list: found, updated, erased -/

theorem findFirst_any {α : Type} (p : α → Bool) (l : List α) :
    (findFirst p l).isSome = l.any p := by
  induction l with
  | nil => rfl
  | cons x t ih =>
    simp only [findFirst, List.any_cons]
    split
    · next h => simp [h]
    · next h => simp [h, ih]

/-! Facts about every element of a list given by its shape, applied along the shape (a plan written out as `a :: b :: if c then … else …`). -/

theorem forall_mem_nil {α : Type} {Q : α → Prop} : ∀ p ∈ ([] : List α), Q p :=
  List.forall_mem_nil Q

theorem forall_mem_cons_of {α : Type} {Q : α → Prop} {a : α} {l : List α} (ha : Q a) (hl : ∀ p ∈ l, Q p) :
    ∀ p ∈ a :: l, Q p :=
  List.forall_mem_cons.2 ⟨ha, hl⟩

theorem forall_mem_ite {α : Type} {Q : α → Prop} {c : Prop} [Decidable c] {l l' : List α} (hl : ∀ p ∈ l, Q p)
    (hl' : ∀ p ∈ l', Q p) : ∀ p ∈ (if c then l else l'), Q p := by
  split
  · exact hl
  · exact hl'

theorem findFirst_mem {α : Type} (p : α → Bool) (l : List α) (x : α) (h : findFirst p l = some x) : x ∈ l ∧ p x = true := by
  induction l with
  | nil => simp [findFirst] at h
  | cons y t ih =>
    simp only [findFirst] at h
    split at h
    · next hy => cases h; exact ⟨List.mem_cons_self .., hy⟩
    · exact ⟨List.mem_cons_of_mem _ (ih h).1, (ih h).2⟩

theorem findFirst_some {α : Type} (p : α → Bool) (l : List α) (x : α) (h : findFirst p l = some x) : p x = true :=
  (findFirst_mem p l x h).2

theorem findFirst_none_any {α : Type} (p : α → Bool) (l : List α) (h : findFirst p l = none) : l.any p = false := by
  have := findFirst_any p l
  rw [h] at this
  simpa using this.symm

theorem findFirst_isSome_of_any {α : Type} (p : α → Bool) (l : List α) (h : l.any p = true) : ∃ x, findFirst p l = some x :=
  Option.isSome_iff_exists.mp ((findFirst_any p l).trans h)

theorem any_of_findFirst {α : Type} (p : α → Bool) (l : List α) (x : α) (h : findFirst p l = some x) : l.any p = true := by
  rw [← findFirst_any, h]; rfl

def updDelta {α : Type} (f : α → Int) (p : α → Bool) (g : α → α) (l : List α) : Int :=
  match findFirst p l with
  | some x => f (g x) - f x
  | none => 0

theorem mem_updFirst_find {α : Type} (p : α → Bool) (g : α → α) (l : List α) (x : α) (h : x ∈ updFirst p g l) :
    x ∈ l ∨ ∃ y, findFirst p l = some y ∧ x = g y := by
  induction l with
  | nil => cases h
  | cons y t ih =>
    by_cases hp : p y
    · rw [updFirst, if_pos hp] at h
      rw [findFirst, if_pos hp]
      rcases List.mem_cons.mp h with rfl | h
      · exact .inr ⟨y, rfl, rfl⟩
      · exact .inl (List.mem_cons_of_mem _ h)
    · rw [updFirst, if_neg hp] at h
      rw [findFirst, if_neg hp]
      rcases List.mem_cons.mp h with rfl | h
      · exact .inl List.mem_cons_self
      · exact (ih h).imp (List.mem_cons_of_mem _) id

theorem map_updFirst_inv {α β : Type} (f : α → β) (p : α → Bool) (g : α → α) (l : List α) (h : ∀ x, f (g x) = f x) :
    (updFirst p g l).map f = l.map f := by
  induction l with
  | nil => rfl
  | cons x t ih =>
    simp only [updFirst]
    split
    · simp [h]
    · simp [ih]

theorem updFirst_eq_map (l : List CoinInfo) (k : Nat) (g : CoinInfo → CoinInfo) (hn : (l.map (·.id)).Nodup) :
    updFirst (fun c => c.id == k) g l = l.map (fun c => if c.id == k then g c else c) := by
  induction l with
  | nil => rfl
  | cons x t ih =>
    rw [List.map_cons, List.nodup_cons] at hn
    simp only [updFirst, List.map_cons]
    split
    · next hx =>
      -- no later coin has the id `k` of `x`, so the map leaves the tail alone
      refine congrArg _ ((List.map_congr_left fun c hc => ?_).trans (List.map_id t)).symm
      exact if_neg fun hck => hn.1 (List.mem_map.mpr ⟨c, hc, (eq_of_beq hck).trans (eq_of_beq hx).symm⟩)
    · rw [ih hn.2]

theorem findFirst_updFirst {α : Type} (p : α → Bool) (f : α → α) (l : List α) (hp : ∀ x, p (f x) = p x) :
    findFirst p (updFirst p f l) = (findFirst p l).map f := by
  induction l with
  | nil => rfl
  | cons x t ih => by_cases h : p x <;> simp [updFirst, findFirst, hp, h, ih]

theorem findFirst_updFirst_some {α : Type} {p : α → Bool} {f : α → α} {l : List α} {x : α}
    (h : findFirst p l = some x) (hp : ∀ x, p (f x) = p x) : findFirst p (updFirst p f l) = some (f x) := by
  rw [findFirst_updFirst p f l hp, h]; rfl

theorem findFirst_updFirst_other {α : Type} (p q : α → Bool) (f : α → α) (l : List α)
    (hq : ∀ x, q (f x) = q x) (hne : ∀ x, p x = true → q x = false) :
    findFirst q (updFirst p f l) = findFirst q l := by
  induction l with
  | nil => rfl
  | cons x t ih =>
    by_cases h : p x
    · simp [updFirst, findFirst, h, hq, hne x h]
    · simp [updFirst, findFirst, h, ih]

theorem findFirst_updFirst_or {α : Type} (q p : α → Bool) (f : α → α) (l : List α) (hq : ∀ x, q (f x) = q x) :
    findFirst q (updFirst p f l) = findFirst q l ∨ findFirst q (updFirst p f l) = (findFirst q l).map f := by
  induction l with
  | nil => exact .inl rfl
  | cons x t ih =>
    cases hp : p x <;> cases hx : q x <;>
      simp only [updFirst, findFirst, hp, hx, hq, ↓reduceIte, Bool.false_eq_true, Option.map_some, true_or, or_true]
    exact ih

theorem isSome_findFirst_updFirst {α : Type} (p q : α → Bool) (g : α → α) (l : List α) (hg : ∀ x, q (g x) = q x) :
    (findFirst q (updFirst p g l)).isSome = (findFirst q l).isSome := by
  rcases findFirst_updFirst_or q p g l hg with h | h <;> rw [h]
  exact Option.isSome_map

theorem sumBy_updFirst {α : Type} (f : α → Int) (p : α → Bool) (g : α → α) (l : List α) :
    sumBy f (updFirst p g l) = sumBy f l + updDelta f p g l := by
  induction l with
  | nil => rfl
  | cons x t ih =>
    simp only [updFirst, updDelta, findFirst]
    split
    · simp only [sumBy_cons]; omega
    · simp only [sumBy_cons, ih, updDelta]; omega

theorem sumBy_updFirst_some {α : Type} (f : α → Int) (p : α → Bool) (g : α → α) {l : List α} {x : α}
    (h : findFirst p l = some x) : sumBy f (updFirst p g l) = sumBy f l + (f (g x) - f x) := by
  simp only [sumBy_updFirst, updDelta, h]

theorem sumBy_updFirst_add {α : Type} (f : α → Int) (p : α → Bool) (g : α → α) (d : Int) (l : List α)
    (hany : l.any p = true) (hd : ∀ x, p x = true → f (g x) = f x + d) :
    sumBy f (updFirst p g l) = sumBy f l + d := by
  obtain ⟨x, hx⟩ := findFirst_isSome_of_any p l hany
  rw [sumBy_updFirst_some f p g hx, hd x (findFirst_some p l x hx)]; omega

theorem sumBy_updFirst_inv {α : Type} (f : α → Int) (p : α → Bool) (g : α → α) (l : List α) (h : ∀ x, f (g x) = f x) :
    sumBy f (updFirst p g l) = sumBy f l := by
  rw [sumBy_updFirst, updDelta]
  split
  · rw [h, Int.sub_self, Int.add_zero]
  · exact Int.add_zero _

theorem sumBy_eraseFirst {α : Type} (f : α → Int) (p : α → Bool) (l : List α) :
    sumBy f (eraseFirst p l) = sumBy f l - (match findFirst p l with | some x => f x | none => 0) := by
  induction l with
  | nil => rfl
  | cons x t ih =>
    simp only [eraseFirst, findFirst]
    split
    · simp only [sumBy_cons]; omega
    · simp only [sumBy_cons, ih]; omega

theorem sumBy_eraseFirst_some {α : Type} (f : α → Int) (p : α → Bool) {l : List α} {x : α} (h : findFirst p l = some x) :
    sumBy f (eraseFirst p l) = sumBy f l + - f x := by
  rw [sumBy_eraseFirst, h]; rfl

theorem ite_add_zero {P : Prop} [Decidable P] (a b : Int) :
    (if P then a + b else 0) = (if P then a else 0) + (if P then b else 0) := by
  split <;> simp

theorem ite_neg_zero {P : Prop} [Decidable P] (a : Int) : (if P then -a else 0) = -(if P then a else 0) := by
  split <;> simp

/-! ### What a primitive adds to each part of the books

  The lists of entries that hold value (stakes and pending updates of candidates, waitlist, frozen funds, orders) are summed
  under an arbitrary valuation `f` of an entry, so that one lemma per list serves `holdings` (the value in coin `c`) and
  the per-owner sums of C05 alike. -/

theorem holdings_def (s : State) (c : Coin) : holdings s c =
    Bag.sumIf (fun k => decide (k.2 = c)) s.balances
  + sumBy (candHoldings c) s.candidates
  + sumBy (fun w => if w.coin = c then w.value else 0) s.waitlist
  + sumBy (fun f => if f.coin = c then f.value else 0) s.frozen
  + sumBy (poolHoldings c) s.pools
  + sumBy (orderEscrow c) s.orders := rfl

def Prim.dBalHold (c : Coin) : Prim → Int
  | .addBal _ k v => if k = c then v else 0
  | _ => 0

theorem apply_balances (c : Coin) (s : State) (p : Prim) :
    Bag.sumIf (fun k => decide (k.2 = c)) (p.apply s).balances
      = Bag.sumIf (fun k => decide (k.2 = c)) s.balances + p.dBalHold c := by
  cases p with
  | addBal a k v =>
    refine (Bag.sumIf_add ..).trans (congrArg _ ?_)
    simp only [Prim.dBalHold, decide_eq_true_eq]
  | _ => exact (Int.add_zero _).symm

def Prim.dStakeBy (f : Stake → Int) : Prim → Int
  | .addStake _ owner coin v => f ⟨owner, coin, v, 0⟩
  | .newStake _ st | .pushUpdate _ st => f st
  | .delStake _ st => - f st
  | _ => 0

theorem apply_stakes (f : Stake → Int)
    (hf : ∀ st v, f { st with value := st.value + v } = f st + f ⟨st.owner, st.coin, v, 0⟩)
    (s : State) (p : Prim) (hok : p.ok s = true) :
    sumBy (fun cd => sumBy f cd.stakes + sumBy f cd.updates) (p.apply s).candidates
      = sumBy (fun cd => sumBy f cd.stakes + sumBy f cd.updates) s.candidates + p.dStakeBy f := by
  cases p with
  | addStake cand owner coin v =>
    simp only [Prim.ok] at hok
    split at hok
    · next cd hcd =>
      have hin := sumBy_updFirst_add f (stakeKey owner coin) (fun st => { st with value := st.value + v })
        (f ⟨owner, coin, v, 0⟩) cd.stakes hok fun st hk => by
          simp only [stakeKey, Bool.and_eq_true, beq_iff_eq] at hk
          rw [hf, hk.1, hk.2]
      refine (sumBy_updFirst_some _ _ _ hcd).trans (congrArg _ ?_)
      show sumBy f (updFirst _ _ cd.stakes) + sumBy f cd.updates - (sumBy f cd.stakes + sumBy f cd.updates)
        = f ⟨owner, coin, v, 0⟩
      rw [hin]; omega
    · cases hok
  | newStake cand st =>
    exact sumBy_updFirst_add _ _ _ _ _ hok fun cd _ => by
      show sumBy f (cd.stakes ++ [st]) + sumBy f cd.updates = sumBy f cd.stakes + sumBy f cd.updates + f st
      rw [sumBy_append, sumBy_single, Int.add_right_comm]
  | pushUpdate cand st =>
    exact sumBy_updFirst_add _ _ _ _ _ hok fun cd _ => by
      show sumBy f cd.stakes + sumBy f (cd.updates ++ [st]) = sumBy f cd.stakes + sumBy f cd.updates + f st
      rw [sumBy_append, sumBy_single, Int.add_assoc]
  | delStake cand st =>
    simp only [Prim.ok] at hok
    split at hok
    · next cd hcd =>
      refine (sumBy_updFirst_some _ _ _ hcd).trans (congrArg _ ?_)
      show sumBy f (eraseFirst _ cd.stakes) + sumBy f cd.updates - (sumBy f cd.stakes + sumBy f cd.updates) = - f st
      rw [sumBy_eraseFirst_some f _ (of_decide_eq_true hok)]; omega
    · cases hok
  | addCandidate cd => exact (sumBy_append ..).trans (congrArg _ (sumBy_single ..))
  | setCandStatus | editCandidate | setCandPubKey | setCandCommission =>
    refine .trans ?_ (Int.add_zero _).symm
    exact sumBy_updFirst_inv _ _ _ _ fun _ => rfl
  | _ => exact (Int.add_zero _).symm

def Prim.dWaitBy (f : WaitEntry → Int) : Prim → Int
  | .addWait w => f w
  | .delWait w => - f w
  | _ => 0

theorem apply_waitlist (f : WaitEntry → Int) (s : State) (p : Prim) (hok : p.ok s = true) :
    sumBy f (p.apply s).waitlist = sumBy f s.waitlist + p.dWaitBy f := by
  cases p with
  | addWait w => exact (sumBy_append ..).trans (congrArg _ (sumBy_single ..))
  | delWait w => exact sumBy_eraseFirst_some f _ (of_decide_eq_true hok)
  | _ => exact (Int.add_zero _).symm

def Prim.dFrozenBy (f : Frozen → Int) : Prim → Int
  | .addFrozen x => f x
  | .delFrozen x => - f x
  | _ => 0

theorem apply_frozen (f : Frozen → Int) (s : State) (p : Prim) (hok : p.ok s = true) :
    sumBy f (p.apply s).frozen = sumBy f s.frozen + p.dFrozenBy f := by
  cases p with
  | addFrozen x => exact (sumBy_append ..).trans (congrArg _ (sumBy_single ..))
  | delFrozen x => exact sumBy_eraseFirst_some f _ (of_decide_eq_true hok)
  | _ => exact (Int.add_zero _).symm

def Prim.dPoolHold (c : Coin) : Prim → Int
  | .addPool c0 c1 d0 d1 => (if c0 = c then d0 else 0) + (if c1 = c then d1 else 0)
  | .createPool p => poolHoldings c p
  | _ => 0

theorem apply_poolHold (c : Coin) (s : State) (p : Prim) (hok : p.ok s = true) :
    sumBy (poolHoldings c) (p.apply s).pools = sumBy (poolHoldings c) s.pools + p.dPoolHold c := by
  cases p with
  | addPool c0 c1 d0 d1 =>
    exact sumBy_updFirst_add _ _ _ _ _ hok fun pl h => by
      simp only [Bool.and_eq_true, beq_iff_eq] at h
      show poolHoldings c _ = poolHoldings c pl + ((if c0 = c then d0 else 0) + (if c1 = c then d1 else 0))
      simp only [poolHoldings, h.1, h.2, ite_add_zero]; omega
  | createPool pl => exact (sumBy_append ..).trans (congrArg _ (sumBy_single ..))
  | _ => exact (Int.add_zero _).symm

def Prim.dOrderBy (f : Order → Int) : Prim → Int
  | .addOrder o => f o
  | .delOrder o => - f o
  | .fillOrder o d0 d1 => f { o with v0 := o.v0 - d0, v1 := o.v1 - d1 } - f o
  | _ => 0

theorem apply_orders (f : Order → Int) (s : State) (p : Prim) (hok : p.ok s = true) :
    sumBy f (p.apply s).orders = sumBy f s.orders + p.dOrderBy f := by
  cases p with
  | addOrder o => exact (sumBy_append ..).trans (congrArg _ (sumBy_single ..))
  | delOrder o => exact sumBy_eraseFirst_some f _ (of_decide_eq_true hok)
  | fillOrder o d0 d1 => exact sumBy_updFirst_some f _ _ (of_decide_eq_true hok)
  | _ => exact (Int.add_zero _).symm

/-! ### holdings, volume, side pots, emission -/

theorem stakeOf_add (c : Coin) (st : Stake) (v : Int) :
    stakeOf c { st with value := st.value + v } = stakeOf c st + stakeOf c ⟨st.owner, st.coin, v, 0⟩ :=
  ite_add_zero ..

/-- A primitive contributes to one of the six parts of `holdings` at most. -/
theorem dHold_eq (c : Coin) (p : Prim) :
    p.dHold c = p.dBalHold c + p.dStakeBy (stakeOf c) + p.dWaitBy (fun w => if w.coin = c then w.value else 0)
      + p.dFrozenBy (fun f => if f.coin = c then f.value else 0) + p.dPoolHold c + p.dOrderBy (orderEscrow c) := by
  have z1 (x : Int) : x = x + 0 + 0 + 0 + 0 + 0 := by omega
  have z2 (x : Int) : x = 0 + x + 0 + 0 + 0 + 0 := by omega
  have z3 (x : Int) : x = 0 + 0 + x + 0 + 0 + 0 := by omega
  have z4 (x : Int) : x = 0 + 0 + 0 + x + 0 + 0 := by omega
  have z5 (x : Int) : x = 0 + 0 + 0 + 0 + x + 0 := by omega
  have z6 (x : Int) : x = 0 + 0 + 0 + 0 + 0 + x := by omega
  cases p with
  | addBal => exact z1 _
  | addStake | newStake | delStake | pushUpdate => exact z2 _
  | addWait | delWait => exact z3 _
  | addFrozen | delFrozen => exact z4 _
  | addPool | createPool => exact z5 _
  | addOrder | delOrder => exact z6 _
  | fillOrder o d0 d1 =>
    refine .trans ?_ (z6 _)
    show -_ = orderEscrow c _ - orderEscrow c o
    simp only [orderEscrow]
    split <;> split <;> omega
  | _ => rfl

theorem apply_holdings (s : State) (p : Prim) (c : Coin) (hok : p.ok s = true) :
    holdings (p.apply s) c = holdings s c + p.dHold c := by
  have hB := apply_balances c s p
  have hC : sumBy (candHoldings c) (p.apply s).candidates = sumBy (candHoldings c) s.candidates + _ :=
    apply_stakes (stakeOf c) (stakeOf_add c) s p hok
  have hW := apply_waitlist (fun w => if w.coin = c then w.value else 0) s p hok
  have hF := apply_frozen (fun f => if f.coin = c then f.value else 0) s p hok
  have hP := apply_poolHold c s p hok
  have hO := apply_orders (orderEscrow c) s p hok
  rw [holdings_def, holdings_def, dHold_eq]; omega

theorem apply_volume (s : State) (p : Prim) (c : Coin) (hok : p.ok s = true) :
    volumeOf (p.apply s) c = volumeOf s c + p.dVol c := by
  cases p with
  | addVolume k v =>
    exact sumBy_updFirst_add _ _ _ _ _ hok fun ci h => by
      show (if ci.id = c then ci.volume + v else 0) = (if ci.id = c then ci.volume else 0) + if k = c then v else 0
      rw [← eq_of_beq h, ite_add_zero]
  | createCoin ci => exact (sumBy_append ..).trans (congrArg _ (sumBy_single ..))
  | addReserve | bumpVersion =>
    refine .trans ?_ (Int.add_zero _).symm
    exact sumBy_updFirst_inv _ _ _ _ fun _ => rfl
  | setCoinOwner sym a =>
    exact ((sumBy_map ..).trans (sumBy_congr _ _ _ fun ci => by split <;> rfl)).trans (Int.add_zero _).symm
  | _ => exact (Int.add_zero _).symm

def sideTotal (s : State) : Int := totalReserve s + totalAccum s + s.slashed + s.rewardsPool

theorem apply_side (s : State) (p : Prim) (hok : p.ok s = true) :
    sideTotal (p.apply s) = sideTotal s + p.dSide := by
  have inR {R : Int} (d : Int) (h : R = totalReserve s + d) :
      R + totalAccum s + s.slashed + s.rewardsPool = sideTotal s + d := by unfold sideTotal; omega
  have inA {A : Int} (d : Int) (h : A = totalAccum s + d) :
      totalReserve s + A + s.slashed + s.rewardsPool = sideTotal s + d := by unfold sideTotal; omega
  cases p with
  | addReserve k v => exact inR v (sumBy_updFirst_add _ _ _ _ _ hok fun _ _ => rfl)
  | createCoin ci => exact inR ci.reserve ((sumBy_append ..).trans (congrArg _ (sumBy_single ..)))
  | addAccum k v => exact inA v (sumBy_updFirst_add _ _ _ _ _ hok fun _ _ => rfl)
  | addSlashed v =>
    show totalReserve s + totalAccum s + (s.slashed + v) + s.rewardsPool = totalReserve s + totalAccum s + s.slashed + s.rewardsPool + v
    omega
  | addRewards v => exact (Int.add_assoc ..).symm
  | addVolume | bumpVersion =>
    refine inR 0 (.trans ?_ (Int.add_zero _).symm)
    exact sumBy_updFirst_inv _ _ _ _ fun _ => rfl
  | setCoinOwner sym a =>
    exact inR 0 (((sumBy_map ..).trans (sumBy_congr _ _ _ fun ci => by split <;> rfl)).trans (Int.add_zero _).symm)
  | setToDrop k =>
    refine inA 0 (.trans ?_ (Int.add_zero _).symm)
    exact sumBy_updFirst_inv _ _ _ _ fun _ => rfl
  | _ => exact (Int.add_zero _).symm

theorem apply_emission (s : State) (p : Prim) : (p.apply s).emission = s.emission + p.dEmission := by
  cases p with
  | addEmission v => rfl
  | _ => exact (Int.add_zero _).symm

def Prim.balDelta (x : Addr) (c : Coin) : Prim → Int
  | .addBal a c' v => if a = x ∧ c' = c then v else 0
  | _ => 0

theorem apply_balance (s : State) (p : Prim) (x : Addr) (c : Coin) :
    balanceOf (p.apply s) x c = balanceOf s x c + p.balDelta x c := by
  cases p with
  | addBal a c' v =>
    simp only [Prim.apply, balanceOf, Prim.balDelta, Bag.get_add]
    by_cases h : a = x ∧ c' = c
    · obtain ⟨h1, h2⟩ := h; subst h1; subst h2; simp
    · have : ¬ ((a, c') = (x, c)) := by
        intro he; apply h; cases he; exact ⟨rfl, rfl⟩
      simp [h, this]
  | _ => exact (Int.add_zero _).symm

/-! ### Plans -/

theorem applyChecked_cons (s s' : State) (p : Prim) (t : List Prim) (h : applyChecked s (p :: t) = some s') :
    p.ok s = true ∧ applyChecked (p.apply s) t = some s' := by
  simp only [applyChecked] at h
  split at h
  · next hok => exact ⟨hok, h⟩
  · cases h

theorem applyChecked_append (s : State) (p q : List Prim) :
    applyChecked s (p ++ q) = (applyChecked s p).bind (fun s1 => applyChecked s1 q) := by
  induction p generalizing s with
  | nil => rfl
  | cons x t ih =>
    simp only [List.cons_append, applyChecked]
    split
    · exact ih _
    · rfl

theorem checked_sum (f : State → Int) (d : Prim → Int) (hap : ∀ s p, p.ok s = true → f (p.apply s) = f s + d p)
    (s s' : State) (ps : List Prim) (h : applyChecked s ps = some s') : f s' = f s + sumBy d ps := by
  induction ps generalizing s with
  | nil => cases h; exact (Int.add_zero _).symm
  | cons p t ih =>
    obtain ⟨hok, ht⟩ := applyChecked_cons _ _ _ _ h
    rw [ih _ ht, hap s p hok, sumBy_cons, Int.add_assoc]

theorem checked_mono (f : State → Int) (d : Prim → Int) (hap : ∀ s p, p.ok s = true → f (p.apply s) = f s + d p)
    (s s' : State) (ps : List Prim) (hd : ∀ p ∈ ps, 0 ≤ d p) (h : applyChecked s ps = some s') : f s ≤ f s' := by
  have := checked_sum f d hap s s' ps h
  have := sumBy_nonneg d ps hd
  omega

theorem checked_holdings (s s' : State) (ps : List Prim) (c : Coin) (h : applyChecked s ps = some s') :
    holdings s' c = holdings s c + sumHold c ps :=
  checked_sum (holdings · c) (Prim.dHold c) (fun s p => apply_holdings s p c) s s' ps h

theorem checked_volume (s s' : State) (ps : List Prim) (c : Coin) (h : applyChecked s ps = some s') :
    volumeOf s' c = volumeOf s c + sumVol c ps :=
  checked_sum (volumeOf · c) (Prim.dVol c) (fun s p => apply_volume s p c) s s' ps h

theorem checked_side (s s' : State) (ps : List Prim) (h : applyChecked s ps = some s') :
    sideTotal s' = sideTotal s + sumSide ps :=
  checked_sum sideTotal Prim.dSide apply_side s s' ps h

theorem checked_emission (s s' : State) (ps : List Prim) (h : applyChecked s ps = some s') :
    s'.emission = s.emission + sumEmission ps :=
  checked_sum (·.emission) Prim.dEmission (fun s p _ => apply_emission s p) s s' ps h

theorem baseTotalP_eq (s : State) : baseTotalP s = holdings s 0 + sideTotal s := by
  simp only [baseTotalP, baseTotal, sideTotal]; omega

/-- C01 at the level of a plan: custom coins against their volume, the base-coin books (holdings plus the side pots
    of `Prim.dSide`) against the emission counter. -/
def Balanced (ps : List Prim) : Prop :=
  (∀ c, c ≠ 0 → sumHold c ps = sumVol c ps) ∧ sumHold 0 ps + sumSide ps = sumEmission ps

/-- The conservation invariant of C01 for custom coins. -/
def Conserved (s : State) : Prop := ∀ c, c ≠ 0 → volumeOf s c = holdings s c

/-- What a checked plan does to the three quantities of C01, in terms of its declared effects alone. -/
theorem checked_books (s s' : State) (ps : List Prim) (h : applyChecked s ps = some s') :
    (∀ c, volumeOf s' c - holdings s' c = volumeOf s c - holdings s c + (sumVol c ps - sumHold c ps)) ∧
    baseTotalP s' = baseTotalP s + (sumHold 0 ps + sumSide ps) ∧
    s'.emission = s.emission + sumEmission ps := by
  refine ⟨fun c => ?_, ?_, checked_emission _ _ _ h⟩
  · rw [checked_holdings _ _ _ c h, checked_volume _ _ _ c h]; omega
  · rw [baseTotalP_eq, baseTotalP_eq, checked_holdings _ _ _ 0 h, checked_side _ _ _ h]; omega

/-- A balanced plan leaves volume − holdings of every custom coin alone and moves the base total by what it adds to the emission counter. -/
theorem balanced_books (s s' : State) (ps : List Prim) (hb : Balanced ps) (h : applyChecked s ps = some s') :
    (∀ c, c ≠ 0 → volumeOf s' c - holdings s' c = volumeOf s c - holdings s c) ∧
    baseTotalP s' - baseTotalP s = s'.emission - s.emission := by
  obtain ⟨hv, hbase, he⟩ := checked_books s s' ps h
  exact ⟨fun c hc => by rw [hv c, hb.1 c hc, Int.sub_self, Int.add_zero], by rw [hbase, he, hb.2]; omega⟩

theorem balanced_preserves (s s' : State) (ps : List Prim) (hb : Balanced ps)
    (h : applyChecked s ps = some s') (hc : Conserved s) :
    Conserved s' ∧ baseTotalP s' - baseTotalP s = s'.emission - s.emission := by
  obtain ⟨hv, hbase⟩ := balanced_books s s' ps hb h
  exact ⟨fun c hc0 => by have := hv c hc0; have := hc c hc0; omega, hbase⟩

theorem balanced_nil : Balanced [] := ⟨fun _ _ => rfl, rfl⟩

theorem balanced_append (p q : List Prim) (hp : Balanced p) (hq : Balanced q) : Balanced (p ++ q) := by
  constructor
  · intro c hc
    rw [sumHold, sumVol, sumBy_append, sumBy_append]
    exact congr (congrArg _ (hp.1 c hc)) (hq.1 c hc)
  · have := hp.2; have := hq.2
    simp only [sumHold, sumSide, sumEmission, sumBy_append] at *; omega

end Minter
