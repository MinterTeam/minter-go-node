import MinterModel.Validators
import MinterProofs.Ledger
import Mathlib.Tactic.Linarith
/-
  C17 and the block-level recalculation use `sortStable` (Go's `sort.SliceStable`) through two facts only: its output is a permutation of its input and,
  when `less` is a strict weak order, pairwise "not after".  `candLess` and `candLessID` (`getOrderedCandidates`,
  `getOrderedCandidatesLessID` of candidates.go) are such orders, being lexicographic on `(totalBip, id)`.
  For the rewards: floors of shares `K·fᵢ/T` with `Σ fᵢ ≤ T` never add up to more than `K`.
-/
namespace Minter

variable {α : Type}

theorem sumBy_ediv_mul_le (g : α → Int) (T : Int) (hT : 0 < T) (l : List α) :
    sumBy (fun x => g x / T) l * T ≤ sumBy g l := by
  induction l with
  | nil => simp [sumBy]
  | cons x t ih =>
    simp only [sumBy]
    have h1 : g x / T * T ≤ g x := Int.ediv_mul_le _ (by omega)
    rw [Int.add_mul]; omega

theorem sum_shares_le (f : α → Int) (K T : Int) (hK : 0 ≤ K) (hT : 0 ≤ T) (l : List α)
    (hsum : sumBy f l ≤ T) : sumBy (fun x => K * f x / T) l ≤ K := by
  rcases Int.lt_or_eq_of_le hT with hT | rfl
  · have h1 := sumBy_ediv_mul_le (fun x => K * f x) T hT l
    rw [sumBy_const_mul] at h1
    exact le_of_mul_le_mul_right (le_trans h1 (Int.mul_le_mul_of_nonneg_left hsum hK)) hT
  · rw [sumBy_congr_mem _ (fun x => 0 * f x) l fun x _ => by rw [Int.ediv_zero, Int.zero_mul], sumBy_const_mul, Int.zero_mul]
    exact hK

theorem mul_ediv_le (K f T : Int) (hK : 0 ≤ K) (hT : 0 < T) (hf : f ≤ T) : K * f / T ≤ K := by
  have h := Int.ediv_le_ediv hT (Int.mul_le_mul_of_nonneg_left hf hK)
  rwa [Int.mul_ediv_cancel _ (Int.ne_of_gt hT)] at h

theorem foldl_rel {β : Type} (R : β → β → Prop) (hrefl : ∀ b, R b b) (htrans : ∀ a b c, R a b → R b c → R a c)
    (f : β → α → β) (l : List α) (b : β) (hstep : ∀ b, ∀ x ∈ l, R b (f b x)) : R b (l.foldl f b) := by
  induction l generalizing b with
  | nil => exact hrefl b
  | cons x t ih =>
    exact htrans _ _ _ (hstep b x List.mem_cons_self) (ih _ fun b y hy => hstep b y (List.mem_cons_of_mem _ hy))

theorem pairwise_take_drop {R : α → α → Prop} {l : List α} (h : l.Pairwise R) (n : Nat) :
    ∀ a ∈ l.take n, ∀ b ∈ l.drop n, R a b :=
  (List.pairwise_append.mp ((List.take_append_drop n l).symm ▸ h)).2.2

theorem insertStable_perm (less : α → α → Bool) (x : α) (l : List α) : (insertStable less x l).Perm (x :: l) := by
  induction l with
  | nil => simp [insertStable]
  | cons y t ih =>
    simp only [insertStable]
    split
    · exact ((List.Perm.cons y ih).trans (List.Perm.swap x y t))
    · exact List.Perm.refl _

theorem sortStable_perm (less : α → α → Bool) (l : List α) : (sortStable less l).Perm l := by
  induction l with
  | nil => simp [sortStable]
  | cons x t ih =>
    simp only [sortStable]
    exact (insertStable_perm less x _).trans (List.Perm.cons x ih)

/-- A strict weak order, stated on its complement "not after" (`less b a = false`): the form in which sortedness is a `Pairwise`. -/
structure StrictWeak (less : α → α → Bool) : Prop where
  total : ∀ a b, less a b = false ∨ less b a = false
  trans : ∀ a b c, less b a = false → less c b = false → less c a = false

theorem insertStable_sorted (less : α → α → Bool) (hw : StrictWeak less) (x : α) (l : List α)
    (hl : l.Pairwise (fun a b => less b a = false)) :
    (insertStable less x l).Pairwise (fun a b => less b a = false) := by
  induction l with
  | nil => exact List.pairwise_singleton _ _
  | cons y t ih =>
    obtain ⟨hy, ht⟩ := List.pairwise_cons.mp hl
    rw [insertStable]
    split
    · next hyx =>
      refine List.pairwise_cons.mpr ⟨fun z hz => ?_, ih ht⟩
      rcases List.mem_cons.mp ((insertStable_perm less x t).mem_iff.mp hz) with rfl | h
      · exact (hw.total z y).resolve_right (ne_false_of_eq_true hyx)
      · exact hy z h
    · next hyx =>
      have hyx' : less y x = false := Bool.eq_false_iff.mpr hyx
      exact List.pairwise_cons.mpr ⟨List.forall_mem_cons.mpr ⟨hyx', fun z h => hw.trans x y z hyx' (hy z h)⟩, hl⟩

theorem sortStable_sorted (less : α → α → Bool) (hw : StrictWeak less) (l : List α) :
    (sortStable less l).Pairwise (fun a b => less b a = false) := by
  induction l with
  | nil => simp [sortStable]
  | cons x t ih => exact insertStable_sorted less hw x _ ih

theorem candLess_false_iff (a b : Candidate) :
    candLess a b = false ↔ (a.totalBip < b.totalBip ∨ (a.totalBip = b.totalBip ∧ a.id ≤ b.id)) := by
  simp only [candLess, Bool.or_eq_false_iff, Bool.and_eq_false_iff, decide_eq_false_iff_not]; omega

theorem candLessID_false_iff (a b : Candidate) :
    candLessID a b = false ↔ (a.totalBip < b.totalBip ∨ (a.totalBip = b.totalBip ∧ b.id ≤ a.id)) := by
  simp only [candLessID, Bool.or_eq_false_iff, Bool.and_eq_false_iff, decide_eq_false_iff_not]; omega

theorem candLess_strictWeak : StrictWeak candLess where
  total a b := by rw [candLess_false_iff, candLess_false_iff]; omega
  trans a b c h1 h2 := by rw [candLess_false_iff] at *; omega

theorem candLessID_strictWeak : StrictWeak candLessID where
  total a b := by rw [candLessID_false_iff, candLessID_false_iff]; omega
  trans a b c h1 h2 := by rw [candLessID_false_iff] at *; omega

end Minter
