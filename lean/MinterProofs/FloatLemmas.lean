import MinterModel.Orders
import Mathlib.Tactic.Linarith
import Mathlib.Tactic.Ring
/-
  The `big.Float` detour of a partial fill is exact:  `new(big.Float).SetRat(n/d).Int(nil) = ⌊n/d⌋`.

  The receiver has precision 0, so `SetRat` rounds the quotient (to nearest even) to max(64, bitLen n, bitLen d) bits.
  That is enough bits for the rounding never to reach the next integer (`ratInt_eq_ediv`): the mantissa keeps `k` bits
  behind the binary point with `d < 2^(k+1)`, so the rounding error, at most `2^-(k+1)`, is less than the `1/d` by which
  `n/d` stays below the next integer (`roundDiv_shift`).
-/
namespace Minter.Lob

theorem bitLen_lt (n : Nat) : n < 2 ^ bitLen n := by
  unfold bitLen
  split
  · next h => subst h; decide
  · exact Nat.lt_log2_self

theorem bitLen_le (n : Nat) (h : n ≠ 0) : 2 ^ (bitLen n - 1) ≤ n := by
  unfold bitLen
  rw [if_neg h]
  simpa using Nat.log2_self_le h

theorem bitLen_pos (n : Nat) (h : 0 < n) : 0 < bitLen n := by
  unfold bitLen
  rw [if_neg (by omega)]
  omega

theorem roundDiv_cases (a b : Nat) :
    roundDiv a b = a / b ∨ roundDiv a b = a / b + 1 ∧ b ≤ 2 * (a % b) := by
  unfold roundDiv
  simp only
  split
  · next h => exact .inr ⟨rfl, by omega⟩
  · exact .inl rfl

theorem roundDiv_shift (n d k : Nat) (hd : 0 < d) (hk : d < 2 ^ (k + 1)) :
    roundDiv (n * 2 ^ k) d / 2 ^ k = n / d := by
  rw [Nat.pow_succ] at hk
  generalize 2 ^ k = T at hk ⊢
  -- `n + 1 ≤ (n/d + 1)·d`, which leaves `T` units of room above `n·T`
  have hhi : n * T + T ≤ (n / d + 1) * T * d :=
    calc n * T + T = (n + 1) * T := (Nat.succ_mul n T).symm
      _ ≤ d * (n / d + 1) * T := Nat.mul_le_mul_right T (Nat.lt_mul_div_succ n hd)
      _ = (n / d + 1) * T * d := by ring
  have hlo : n / d * T * d ≤ n * T := by
    rw [Nat.mul_right_comm]
    exact Nat.mul_le_mul_right T (Nat.div_mul_le_self n d)
  have hx := Nat.div_add_mod (n * T) d
  have hz := Nat.mod_lt (n * T) hd
  have hylo : n / d * T ≤ n * T / d := (Nat.le_div_iff_mul_le hd).mpr hlo
  have hyhi : n * T / d < (n / d + 1) * T := (Nat.div_lt_iff_lt_mul hd).mpr (by omega)
  rcases roundDiv_cases (n * T) d with e | ⟨e, hup⟩ <;> rw [e]
  · exact Nat.div_eq_of_lt_le hylo hyhi
  · refine Nat.div_eq_of_lt_le (by omega) (Nat.lt_of_le_of_ne hyhi fun hc => ?_)
    -- rounding up to the next multiple of `T` would need a remainder `≤ d - T < d/2`
    have : (n / d + 1) * T * d = d * (n * T / d) + d := by rw [← hc, Nat.succ_mul, Nat.mul_comm]
    omega
theorem scaleQuot_neg (n d k : Nat) : scaleQuot n d (-(k : Int)) = (n * 2 ^ k, d) := by
  unfold scaleQuot
  rw [if_pos (by omega)]
  simp

/-- `(*big.Float).Int(nil)` on a non-negative float: the last line of `ratIntNat`. -/
def truncF (f : BFloat) : Nat := if f.exp ≥ 0 then f.mant * 2 ^ f.exp.toNat else f.mant / 2 ^ f.exp.natAbs

theorem truncF_neg (m k : Nat) : truncF ⟨m, -(k : Int)⟩ = m / 2 ^ k := by
  unfold truncF
  simp only
  split
  · next h => obtain rfl : k = 0 := by omega
              simp
  · rw [Int.natAbs_neg, Int.natAbs_natCast]

/-- The `m = 2 ^ prec` branch of `rnQuot`: `2^(p-1)` with the exponent one up truncates to the same integer. -/
theorem truncF_renorm (p k : Nat) (hp : 1 ≤ p) : truncF ⟨2 ^ (p - 1), -(k : Int) + 1⟩ = 2 ^ p / 2 ^ k := by
  obtain ⟨i, rfl⟩ : ∃ i, p = i + 1 := ⟨p - 1, by omega⟩
  cases k with
  | zero => simp [truncF, Nat.pow_succ]
  | succ k =>
    have : (-((k + 1 : Nat) : Int) + 1) = -(k : Int) := by omega
    rw [this, truncF_neg, Nat.add_sub_cancel, Nat.pow_succ, Nat.pow_succ, Nat.mul_div_mul_right _ _ (by decide)]

theorem rnQuot_trunc (p n d : Nat) (hn : 0 < n) (hd : 0 < d)
    (hpn : bitLen n ≤ p) : truncF (rnQuot p n d) = n / d := by
  have hbn := bitLen_pos n hn
  have hbd := bitLen_pos d hd
  unfold rnQuot
  rw [if_neg (by omega)]
  simp only
  -- the first exponent is `-k` with `k ≥ bitLen d`; the final one is `-j` with `j = k` or `j = k - 1`
  obtain ⟨k, hk⟩ : ∃ k : Nat, (bitLen n : Int) - bitLen d - p = -(k : Int) ∧ bitLen d ≤ k :=
    ⟨p + bitLen d - bitLen n, by omega, by omega⟩
  rw [hk.1]
  obtain ⟨j, hj, hjd⟩ : ∃ j : Nat, (if (scaleQuot n d (-(k : Int))).1 / (scaleQuot n d (-(k : Int))).2 ≥ 2 ^ p
      then -(k : Int) + 1 else -(k : Int)) = -(j : Int) ∧ bitLen d ≤ j + 1 := by
    split
    · exact ⟨k - 1, by omega, by omega⟩
    · exact ⟨k, rfl, by omega⟩
  rw [hj, scaleQuot_neg]
  have hmain := roundDiv_shift n d j hd
    (Nat.lt_of_lt_of_le (bitLen_lt d) (Nat.pow_le_pow_right (by decide) hjd))
  split
  · next hm => rw [truncF_renorm p j (by omega), ← hm, hmain]
  · rw [truncF_neg, hmain]
theorem ratIntNat_eq (num den : Nat) (hden : 0 < den) : ratIntNat num den = num / den := by
  unfold ratIntNat
  rw [if_neg (by omega)]
  simp only
  have hg : 0 < Nat.gcd num den := Nat.gcd_pos_of_pos_right _ hden
  have hco : Nat.Coprime (num / Nat.gcd num den) (den / Nat.gcd num den) := Nat.coprime_div_gcd_div_gcd hg
  have hdpos : 0 < den / Nat.gcd num den := Nat.div_pos (Nat.gcd_le_right _ hden) hg
  have hquot : num / den = num / Nat.gcd num den / (den / Nat.gcd num den) := by
    rw [← Nat.mul_div_mul_right (num / Nat.gcd num den) (den / Nat.gcd num den) hg,
      Nat.div_mul_cancel (Nat.gcd_dvd_left ..), Nat.div_mul_cancel (Nat.gcd_dvd_right ..)]
  rw [hquot]
  generalize num / Nat.gcd num den = n at *
  generalize den / Nat.gcd num den = d at *
  split
  · next h1 => subst h1; simp
  · next h1 =>
    have hnpos : 0 < n := Nat.pos_of_ne_zero fun h => h1 (by subst h; simpa using hco)
    exact rnQuot_trunc (max 64 (max (bitLen n) (bitLen d))) n d hnpos hdpos (by omega)
theorem ratInt_eq_ediv (n d : Int) (hn : 0 ≤ n) (hd : 0 < d) : ratInt n d = n / d := by
  obtain ⟨a, rfl⟩ := Int.eq_ofNat_of_zero_le hn
  obtain ⟨b, rfl⟩ := Int.eq_ofNat_of_zero_le hd.le
  rw [ratInt, ratIntNat_eq _ _ (by omega), Int.sign_eq_one_of_pos hd, mul_one, Int.natAbs_natCast, Int.natAbs_natCast,
    Int.natCast_ediv]
  rcases a.eq_zero_or_pos with rfl | h
  · simp
  · rw [Int.sign_eq_one_of_pos (by exact_mod_cast h), one_mul]

end Minter.Lob
