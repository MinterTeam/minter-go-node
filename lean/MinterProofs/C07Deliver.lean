import MinterProofs.C07Routes
/-
  DeliverTx around the handlers: dispatch over the 37 types, the deliver half (`execReady`), the ticker burn, the failure fee. The
  result is stated as `GoPanicFree`: a fault may still be one of the model's own consistency guards (`modelGuards`), behind which there
  is no Go panic. The failure fee can always be paid, also when it is capped at the payer's balance.
-/
namespace Minter

/-- The model's own consistency guards (`model: …`).  They are self-checks of the MODEL (an unauthorised debit, a nonce touched by a
    handler, a coin id out of sequence, a failure path that answers OK / moves something else than a fee); no Go `panic`, nil
    dereference or division stands behind them. -/
def modelGuards : List String :=
  ["model: ticker burn touched a nonce", "model: unauthorised debit in a handler", "model: handler touched a nonce",
   "model: new coin without the next coin id", "model: failure path returned OK", "model: failure path made a non-fee move",
   "model: failure fee charged to a third party", "model: handler rejected with code 0"]

def GoPanicFree {α : Type} (m : M α) : Prop := ∀ w, m = .error (.panic w) → w ∈ modelGuards

theorem GoPanicFree_of_noPanic {α : Type} {m : M α} (h : NoPanic m) : GoPanicFree m := fun w hw => absurd hw (h w)

theorem GoPanicFree_pure {α : Type} (x : α) : GoPanicFree (pure x : M α) := GoPanicFree_of_noPanic (NoPanic_pure x)

/-- For the branch `| .error e => throw e` of a `match` on a sub-computation `m`. -/
theorem GoPanicFree_sub {α β : Type} {m : M β} {e : Stop} (hm : NoPanic m) (he : m = .error e) : GoPanicFree (throw e : M α) :=
  GoPanicFree_of_noPanic (NoPanic_throw_of hm he)

/-- A self-check of the model in front of `m`. -/
theorem GoPanicFree_guard {α : Type} {c : Prop} [Decidable c] {g : String} {m : M α} (hg : g ∈ modelGuards) (hm : GoPanicFree m) :
    GoPanicFree (if c then throw (.panic g) else m) := by
  split
  · intro w h; cases h; exact hg
  · exact hm

theorem runData_good {P : Params} {s : State} (hinv : TxInv P s) (o : Oracle) (b : Nat) (t : TxIn) (hwf : TxWf t) (price : Int) (hp : 0 ≤ price)
    (hcap : t.typ = 24 → t.int "d.ValueToBuy" ≤ P.maxSupply) : Good (ReadyGood P o s price) (runData P o s b t price) := by
  unfold runData
  split
  · exact runSend_good hinv o t price hp
  · exact runSellCoin_good hinv o t price hp
  · exact runSellAllCoin_good hinv o t price hp
  · exact runBuyCoin_good hinv o t price hp
  · exact runCreateCoin_good hinv o t price hp
  · exact runDeclare_good hinv o t price hp b hwf
  · exact runDelegate_good hinv o t price hp
  · exact runUnbond_good hinv o t price hp b
  · exact runRedeemCheck_good hinv o t price hp b
  · exact runSetOn_good hinv o t price hp b
  · exact runSetOff_good hinv o t price hp
  · exact runCreateMultisig_good hinv o t price hp
  · exact runMultisend_good hinv o t price hp
  · exact runEditCandidate_good hinv o t price hp
  · exact runSetHalt_good hinv o t price hp b
  · exact runRecreateCoin_good hinv o t price hp
  · exact runEditCoinOwner_good hinv o t price hp
  · exact runEditMultisig_good hinv o t price hp
  · exact runEditPubKey_good hinv o t price hp
  · exact runAddLiquidity_good hinv o t price hp
  · exact runRemoveLiquidity_good hinv o t price hp
  · exact runSellPool_good hinv o t hwf price hp
  · rename_i h24
    exact runBuyPool_good hinv o t hwf price hp (hcap h24)
  · exact runSellAllPool_good hinv o t price hp
  · exact runEditCommission_good hinv o t price hp b
  · exact runMoveStake_good hinv o t price hp b
  · exact runMintToken_good hinv o t price hp
  · exact runBurnToken_good hinv o t price hp
  · exact runCreateToken_good hinv o t price hp
  · exact runRecreateToken_good hinv o t price hp
  · exact runVoteCommission_good hinv o t price hp b
  · exact runVoteUpdate_good hinv o t price hp b
  · exact runCreatePool_good hinv o t price hp
  · exact runAddOrder_good hinv o t price hp b
  · exact runRemoveOrder_good hinv o t price hp b
  · exact runLockStake_good hinv o t price hp b
  · exact runLock_good hinv o t price hp b
  · exact Good_throw (fun w h => by cases h)

theorem execReady_noPanic {P : Params} {s : State} (hinv : TxInv P s) (o : Oracle) (price : Int) (hp : 0 ≤ price) (rd : Ready)
    (hg : ReadyGood P o s price rd) : NoPanic (execReady s rd) := by
  unfold execReady
  have hcg := (calcCommission_spec hinv o rd.coin price hp).2 rd.com hg.com
  obtain ⟨paid, hpay⟩ := payCommission_total hinv rd.payer rd.coin price rd.com rd.minOut hcg hg.minOut
  rw [hpay]
  simp only
  split
  · exact NoPanic_throw_of (hg.exec paid hpay) (by assumption)
  · exact NoPanic_pure _

theorem tickerBurn_noPanic {P : Params} {s : State} (hinv : TxInv P s) (t : TxIn) : NoPanic (tickerBurn s t) := by
  unfold tickerBurn
  apply NoPanic_ite <;> intro _
  · simp only
    apply NoPanic_ite <;> intro hle
    · exact NoPanic_pure _
    · split
      · exact NoPanic_throw_of (toBase_noPanic hinv _ (Int.le_of_lt (Int.not_le.mp hle))) (by assumption)
      · exact NoPanic_pure _
      · split <;> exact NoPanic_pure _
  · exact NoPanic_pure _

theorem successOutcome_free {P : Params} {s : State} (hinv : TxInv P s) (t : TxIn) (r : Outcome) : GoPanicFree (successOutcome s t r) := by
  unfold successOutcome
  split
  · exact GoPanicFree_sub (tickerBurn_noPanic hinv t) ‹_›
  · refine GoPanicFree_guard (by simp [modelGuards]) ?_
    refine GoPanicFree_guard (by simp [modelGuards]) ?_
    refine GoPanicFree_guard (by simp [modelGuards]) ?_
    refine GoPanicFree_guard (by simp [modelGuards]) ?_
    exact GoPanicFree_pure _

/-! ### The failure fee

  `failFee` (MinterModel/Tx.lean) in named pieces — the price in table terms, its conversion to the base coin, the commission capped at
  the payer's balance, the payment — so that each piece gets its own lemma; `failFee_eq` ties them to the model by `rfl`. -/

def ffTable (s : State) (t : TxIn) : Int :=
  (t.gasPrice : Int) * (priceOf s "failed_tx" + ((t.payLen + t.svcLen : Nat) : Int) * priceOf s "payload_byte")

def ffConv (s : State) (t : TxIn) : M (Except Nat Int) :=
  if priceCoin s == 0 then pure (.ok (ffTable s t)) else
  match toBase s (ffTable s t) with
  | .error e => throw e
  | .ok (.error c) => pure (.error c)
  | .ok (.ok p) => if p ≤ 0 then pure (.error 119) else pure (.ok p)

def ffCapped (P : Params) (o : Oracle) (s : State) (t : TxIn) (com : Com) (bal : Int) : M (Except Nat Com) :=
  if bal < com.commission then
    if com.fromPool then
      match poolRes s t.comCoin 0 with
      | none => throw (.panic "missing commission pool")
      | some (r0, r1) =>
        match checkSwapQuote r0 r1 bal 0 false with
        | .error e => throw e
        | .ok (.error c) => pure (.error c)
        | .ok (.ok x) => if x ≤ 0 then pure (.error 119) else pure (.ok ⟨bal, x, true⟩)
    else if t.comCoin != 0 then
      match getCoin s t.comCoin with
      | none => throw (.panic "missing gas coin")
      | some ci =>
        if hasReserve ci then
          if ci.volume < bal then pure (.error 103) else
          match ask o (.saleReturn ci.volume ci.reserve ci.crr bal) with
          | .error e => throw e
          | .ok r => if ci.reserve - r < P.minReserve then pure (.error 116) else pure (.ok ⟨bal, r, false⟩)
        else pure (.ok ⟨bal, bal, false⟩)
    else pure (.ok ⟨bal, bal, false⟩)
  else pure (.ok com)

def ffPay (P : Params) (o : Oracle) (s : State) (t : TxIn) (code : Nat) (com : Com) (payer : Addr) : M Outcome :=
  if balanceOf s payer t.comCoin ≤ 0 then pure { code := code } else
  match ffCapped P o s t com (balanceOf s payer t.comCoin) with
  | .error e => throw e
  | .ok (.error c) => pure { code := c }
  | .ok (.ok cm) =>
    match payCommission s payer t.comCoin cm with
    | .error e => throw e
    | .ok paid => pure { code := code, moves := paid.moves, tags := [("tx.fail_fee", toString paid.amount)] }

theorem failFee_eq (P : Params) (o : Oracle) (s : State) (t : TxIn) (code : Nat) :
    failFee P o s t code =
      (match ffConv s t with
       | .error e => throw e
       | .ok (.error c) => pure { code := c }
       | .ok (.ok inBase0) =>
         match calcCommission P o s t.comCoin inBase0 with
         | .error e => throw e
         | .ok (.error c) => pure { code := c }
         | .ok (.ok com) =>
           match (if t.typ == 9 then t.issuer else some t.sender) with
           | none => pure { code := 106 }
           | some payer => ffPay P o s t code com payer) := by
  rfl

theorem ffTable_nonneg (s : State) (hp : PricesOk s) (t : TxIn) : 0 ≤ ffTable s t := by
  unfold ffTable
  apply Int.mul_nonneg (by omega)
  have := hp.nonneg "failed_tx"
  have : 0 ≤ ((t.payLen + t.svcLen : Nat) : Int) * priceOf s "payload_byte" := Int.mul_nonneg (by omega) (hp.nonneg _)
  omega

theorem ffConv_spec {P : Params} {s : State} (hinv : TxInv P s) (t : TxIn) : Good (fun x => 0 ≤ x) (ffConv s t) := by
  have hnn := ffTable_nonneg s (priceTableOk_sound s hinv.prices) t
  unfold ffConv
  refine Good_ite.mpr ⟨fun _ => Good_ok.mpr hnn, fun _ => ?_⟩
  split
  · exact Good_sub (toBase_noPanic hinv _ hnn) ‹_›
  · exact Good_error
  · simp only [Good_ite, Good_ok]
    exact ⟨fun _ => Good_error, fun _ => by omega⟩

/-- The pool case goes through because the capped fee is quoted again by `CheckSwap` and rejected unless the quote is positive
    (executor_v3.go, /repo 7c6bd49, F13): a positive quote means a positive net input (`quoteBFS_pos`), which `PairSellWithOrders` needs. -/
theorem ffCapped_spec {P : Params} {s : State} (hinv : TxInv P s) (o : Oracle) (t : TxIn) (inBase : Int) (com : Com) (bal : Int) (payer : Addr)
    (hb : 0 ≤ inBase) (hbal : 0 < bal) (hcoin : coinExists s t.comCoin = true) (hcg : ComGood s t.comCoin inBase com) :
    Good (fun cm => ∃ paid, payCommission s payer t.comCoin cm = .ok paid) (ffCapped P o s t com bal) := by
  unfold ffCapped
  refine Good_ite.mpr ⟨fun _ => Good_ite.mpr ⟨fun hf => ?_, fun _ => Good_ite.mpr ⟨fun hne => ?_, fun _ => ?_⟩⟩,
    fun _ => Good_ok.mpr (payCommission_total hinv payer t.comCoin inBase com 0 hcg (by omega))⟩
  · -- through the pool: the whole balance is sold
    obtain ⟨_, _, _, hord, r0, r1, hres, _⟩ := hcg.pool hf
    have hpos := poolRes_pos s hinv.poolsOk _ _ r0 r1 hres
    obtain ⟨q, hq⟩ := checkSwapQuote_total r0 r1 bal 0 false hpos.1 hpos.2 (by simp only [Bool.false_eq_true, if_false]; omega)
    rw [hres]
    simp only [hq]
    cases q with
    | error c => exact Good_error
    | ok x =>
      simp only [Good_ite, Good_ok]
      refine ⟨fun _ => Good_error, fun hx => ?_⟩
      obtain ⟨_, hnet, hbfs⟩ := quoteBFS_pos r0 r1 bal x (by omega) (checkSwapQuote_sell_ok _ _ _ _ _ hq).1 (by omega)
      obtain ⟨mv, hm⟩ := pairSellMove_ok s none payer t.comCoin 0 bal 0 true 0 r0 r1 x (by rw [poolResAdj_none]; exact hres) hord
        hbal hnet hbfs (by omega) (by omega)
      unfold payCommission
      simp only [if_true, hm]
      exact ⟨_, rfl⟩
  · -- from the reserve of a custom coin
    obtain ⟨ci, hci⟩ := getCoin_of_exists s _ hcoin (by simpa using hne)
    have payOk : ∀ r, ∃ paid, payCommission s payer t.comCoin ⟨bal, r, false⟩ = .ok paid := fun r =>
      payCommission_direct s payer _ _ 0 rfl fun hz => absurd hz (by simpa using hne)
    rw [hci]
    simp only [Good_ite, Good_ok]
    refine ⟨fun _ => ⟨fun _ => Good_error, fun _ => ?_⟩, fun _ => payOk _⟩
    split
    · exact Good_sub (ask_noPanic _ _) ‹_›
    · simp only [Good_ite, Good_ok]
      exact ⟨fun _ => Good_error, fun _ => payOk _⟩
  · -- base coin
    exact Good_ok.mpr (payCommission_direct s payer _ _ 0 rfl fun _ => rfl)

theorem ffPay_noPanic {P : Params} {s : State} (hinv : TxInv P s) (o : Oracle) (t : TxIn) (code : Nat) (inBase : Int) (com : Com) (payer : Addr)
    (hb : 0 ≤ inBase) (hcoin : coinExists s t.comCoin = true) (hcg : ComGood s t.comCoin inBase com) :
    NoPanic (ffPay P o s t code com payer) := by
  unfold ffPay
  apply NoPanic_ite <;> intro hbal
  · exact NoPanic_pure _
  · obtain ⟨hnp, hsp⟩ := ffCapped_spec hinv o t inBase com (balanceOf s payer t.comCoin) payer hb (by omega) hcoin hcg
    split
    · exact NoPanic_throw_of hnp (by assumption)
    · exact NoPanic_pure _
    · rename_i cm hcm
      obtain ⟨paid, hpaid⟩ := hsp cm hcm
      rw [hpaid]
      exact NoPanic_pure _

theorem failFee_noPanic {P : Params} {s : State} (hinv : TxInv P s) (o : Oracle) (t : TxIn) (code : Nat)
    (hcoin : coinExists s t.comCoin = true) : NoPanic (failFee P o s t code) := by
  rw [failFee_eq]
  obtain ⟨hcnp, hcsp⟩ := ffConv_spec hinv t
  split
  · exact NoPanic_throw_of hcnp (by assumption)
  · exact NoPanic_pure _
  · rename_i inBase0 hconv
    have hb := hcsp inBase0 hconv
    obtain ⟨hnp, hsp⟩ := calcCommission_spec hinv o t.comCoin inBase0 hb
    split
    · exact NoPanic_throw_of hnp (by assumption)
    · exact NoPanic_pure _
    · rename_i com hcom
      split
      · exact NoPanic_pure _
      · exact ffPay_noPanic hinv o t code inBase0 com _ hb hcoin (hsp com hcom)

theorem failureOutcome_free {P : Params} {s : State} (hinv : TxInv P s) (o : Oracle) (t : TxIn) (code : Nat)
    (hcoin : coinExists s t.comCoin = true) : GoPanicFree (failureOutcome P o s t code) := by
  unfold failureOutcome
  split
  · refine GoPanicFree_guard (by simp [modelGuards]) ?_
    refine GoPanicFree_guard (by simp [modelGuards]) ?_
    refine GoPanicFree_guard (by simp [modelGuards]) ?_
    exact GoPanicFree_pure _
  · exact GoPanicFree_sub (failFee_noPanic hinv o t code hcoin) ‹_›

end Minter
