import MinterModel.Block
import MinterProofs.Begin
import MinterProofs.Props.C17
import MinterProofs.BlockPlans
/-
  `updateValidators` (step 8 of EndBlock) moves no value except for the named defects: recalculation of the stakes (merge of the
  pending updates, kicks to the waitlist), deletion of the candidates beyond rank 100 (everything they hold becomes frozen
  funds) and replacement of the validator set (accumulated rewards of leaving validators go to the slashed total).
-/
namespace Minter

section hold
variable (b : Coin → Int → Int) (c : Coin)

theorem slotsHold_cons (o : Option Stake) (t : Slots) : slotsHold c (o :: t) = optHold c o + slotsHold c t := rfl

theorem slotsHold_toSlots (st : List Stake) : slotsHold c (toSlots st) = sumBy (stakeOf c) st := by
  unfold toSlots slotsHold
  rw [sumBy_append, sumBy_map, sumBy_eq_zero (l := List.replicate _ _) (fun o ho => by rw [List.eq_of_mem_replicate ho]; rfl)]
  exact Int.add_zero _

theorem toSlots_ne_nil (st : List Stake) : toSlots st ≠ [] := by
  intro h
  have := congrArg List.length h
  simp only [toSlots, List.length_append, List.length_map, List.length_replicate, List.length_nil] at this
  unfold maxDelegators at this
  omega

theorem slotsHold_rebip (sl : Slots) : slotsHold c (rebip b sl) = slotsHold c sl := by
  unfold rebip slotsHold
  rw [sumBy_map]
  exact sumBy_congr _ _ _ (fun o => by cases o <;> rfl)

theorem sumBy_filterMap_id (sl : Slots) : sumBy (stakeOf c) (sl.filterMap id) = slotsHold c sl := by
  induction sl with
  | nil => rfl
  | cons o t ih =>
    cases o with
    | none => exact ih.trans (Int.zero_add _).symm
    | some s => exact congrArg (stakeOf c s + ·) ih

theorem mergeIntoSlots_hold (sl sl' : Slots) (u : Stake) (h : mergeIntoSlots b sl u = some sl') :
    slotsHold c sl' = slotsHold c sl + stakeOf c u ∧ sl' ≠ [] := by
  induction sl generalizing sl' with
  | nil => cases h
  | cons o t ih =>
    -- the head stays and the update goes into the tail
    have tail : (mergeIntoSlots b t u).map (o :: ·) = some sl' → slotsHold c sl' = slotsHold c (o :: t) + stakeOf c u ∧ sl' ≠ [] :=
      fun h => by
        obtain ⟨t', ht, rfl⟩ := Option.map_eq_some_iff.mp h
        exact ⟨by rw [slotsHold_cons, slotsHold_cons, (ih t' ht).1, Int.add_assoc], List.cons_ne_nil _ _⟩
    cases o with
    | none => exact tail h
    | some s =>
      rw [mergeIntoSlots] at h
      split at h
      · next hm =>
        cases h
        refine ⟨?_, List.cons_ne_nil _ _⟩
        simp only [slotsHold_cons, optHold, stakeOf, hm.2]
        split <;> omega
      · exact tail h

theorem mergeExisting_hold (sl : Slots) (hne : sl ≠ []) (us : List Stake) :
    slotsHold c (mergeExisting b sl us).1 + sumBy (stakeOf c) (mergeExisting b sl us).2 = slotsHold c sl + sumBy (stakeOf c) us
    ∧ (mergeExisting b sl us).1 ≠ [] := by
  induction us generalizing sl with
  | nil => exact ⟨rfl, hne⟩
  | cons u t ih =>
    rw [mergeExisting]
    split
    · next sl' hm =>
      obtain ⟨m1, m2⟩ := mergeIntoSlots_hold b c sl sl' u hm
      rw [(ih sl' m2).1, m1, sumBy, Int.add_assoc]
      exact ⟨rfl, (ih sl' m2).2⟩
    · refine ⟨?_, (ih sl hne).2⟩
      have := (ih sl hne).1
      simp only [sumBy]
      omega

theorem mergeUpdate_hold (acc : List Stake) (u : Stake) :
    sumBy (stakeOf c) (mergeUpdate acc u) = sumBy (stakeOf c) acc + stakeOf c u := by
  induction acc with
  | nil => exact Int.add_comm _ _
  | cons a t ih =>
    rw [mergeUpdate]
    split
    · next h =>
      simp only [sumBy, stakeOf, h.1]
      split <;> omega
    · rw [sumBy, sumBy, ih, Int.add_assoc]

theorem filteredUpdates_fold (us acc : List Stake) :
    sumBy (stakeOf c) (us.foldl (fun acc u => if u.value > 0 then mergeUpdate acc u else acc) acc)
      = sumBy (stakeOf c) acc + sumBy (stakeOf c) (us.filter (fun u => decide (u.value > 0))) := by
  induction us generalizing acc with
  | nil => exact (Int.add_zero _).symm
  | cons u t ih =>
    rw [List.foldl_cons, ih, List.filter_cons]
    by_cases h : u.value > 0
    · rw [if_pos h, if_pos (decide_eq_true h), mergeUpdate_hold, sumBy, Int.add_assoc]
    · rw [if_neg h, if_neg (by simpa using h)]

/-- The updates that get a slot of their own: `getFilteredUpdates`, sorted by their old bip value, new bip value set. -/
def freshUpdates (b : Coin → Int → Int) (rest : List Stake) : List Stake :=
  (sortStable (fun x y => decide (x.bip > y.bip)) (filteredUpdates rest)).map (fun u => { u with bip := b u.coin u.value })

theorem freshUpdates_hold (rest : List Stake) :
    sumBy (stakeOf c) (freshUpdates b rest) = sumBy (stakeOf c) (rest.filter (fun u => decide (u.value > 0))) := by
  unfold freshUpdates filteredUpdates
  rw [sumBy_map, sumBy_congr (fun u : Stake => stakeOf c { u with bip := b u.coin u.value }) (stakeOf c) _ (fun _ => rfl),
    sumBy_perm _ (sortStable_perm _ _), filteredUpdates_fold]
  exact Int.zero_add _

theorem recalcCandidate_hold (sl : Slots) (hne : sl ≠ []) (us : List Stake) :
    slotsHold c (recalcCandidate b sl us).1 + sumBy (stakeOf c) (recalcCandidate b sl us).2.1
      = slotsHold c sl + sumBy (stakeOf c) us - sumBy (stakeOf c) (droppedUpdates b sl us) := by
  obtain ⟨m1, m2⟩ := mergeExisting_hold b c (rebip b sl) (by rwa [rebip, Ne, List.map_eq_nil_iff]) us
  have a := applyUpdates_conserves _ m2 (freshUpdates b (mergeExisting b (rebip b sl) us).2) c
  have hs := sumBy_filter_split (stakeOf c) (fun u => decide (u.value > 0)) (mergeExisting b (rebip b sl) us).2
  rw [freshUpdates_hold] at a
  rw [slotsHold_rebip] at m1
  refine a.trans ?_
  unfold droppedUpdates
  omega

theorem recalcCand_hold (cd : Candidate) :
    candHoldings c (recalcCand b cd).cand + sumBy (stakeOf c) (recalcCand b cd).kicked
      = candHoldings c cd - sumBy (stakeOf c) (recalcCand b cd).dropped := by
  have h := recalcCandidate_hold b c (toSlots cd.stakes) (toSlots_ne_nil _) cd.updates
  simp only [recalcCand, candHoldings, sumBy, sumBy_filterMap_id]
  rw [slotsHold_toSlots] at h
  omega

theorem recalc_all_hold (cands : List Candidate) :
    sumBy (candHoldings c) (recalcedCands b cands)
      + sumBy (fun w : WaitEntry => if w.coin = c then w.value else 0) (kickedEntries b cands)
      = sumBy (candHoldings c) cands - sumBy (stakeOf c) (droppedAll b cands) := by
  unfold recalcedCands kickedEntries droppedAll
  rw [sumBy_map, sumBy_flatMap, sumBy_flatMap, sumBy_perm _ (sortStable_perm candLess cands), ← sumBy_add, ← sumBy_sub]
  exact sumBy_congr _ _ _ (fun cd => by rw [sumBy_map]; exact recalcCand_hold b c cd)

theorem prune_hold (vals : List Validator) (cands1 : List Candidate) (due : Nat) :
    sumBy (candHoldings c) (keptCands vals cands1)
      + sumBy (fun f : Frozen => if f.coin = c then f.value else 0) ((removedCands vals cands1).flatMap (unbondAll due))
      = sumBy (candHoldings c) cands1 := by
  unfold keptCands removedCands
  rw [sumBy_flatMap, sumBy_perm _ (sortStable_perm candLessID _), sumBy_congr _ (candHoldings c) _ (fun x => unbondAll_value due x c)]
  have := sumBy_filter_split (candHoldings c) (isGone vals cands1) cands1
  omega

end hold

theorem keptCands_eq_pruneBeyond (vals : List Validator) (cands1 : List Candidate) :
    keptCands vals cands1 = pruneBeyond candidatesLimit (fun pk => vals.any (fun v => v.pubkey == pk)) cands1 := rfl

/-- Written as everything the leaving validators had minus the non-positive part: the latter is the `goneNonPos` term of `EndDefect`. -/
theorem setNewValidators_slashed (old : List Validator) (sel : List Candidate) :
    (setNewValidators old sel).2 = sumBy (fun v => v.accum) (goneValidators old sel)
      - sumBy (fun v => if v.accum > 0 then 0 else v.accum) (goneValidators old sel) := by
  rw [← sumBy_sub]
  exact sumBy_congr _ _ _ (fun v => by split <;> omega)

theorem valUpdateStep_books (P : Params) (b : Coin → Int → Int) (height : Nat) (s : State) :
    (∀ c, holdings (valUpdateStep P b height s).state c = holdings s c - sumBy (stakeOf c) (valUpdateStep P b height s).dropped) ∧
    (∀ c, volumeOf (valUpdateStep P b height s).state c = volumeOf s c) ∧
    totalReserve (valUpdateStep P b height s).state = totalReserve s ∧
    totalAccum (valUpdateStep P b height s).state + (valUpdateStep P b height s).state.slashed
      = totalAccum s + s.slashed - (valUpdateStep P b height s).goneNonPos - (valUpdateStep P b height s).carry ∧
    (valUpdateStep P b height s).state.emission = s.emission := by
  refine ⟨fun c => ?_, fun _ => rfl, rfl, ?_, rfl⟩
  · have h1 := recalc_all_hold b c s.candidates
    have h2 := prune_hold c s.validators (recalcedCands b s.candidates) (height + P.unbond)
    simp only [valUpdateStep, holdings_def, sumBy_append]
    omega
  · simp only [valUpdateStep, totalAccum, setNewValidators_slashed]
    omega

theorem valUpdate_books (P : Params) (b : Coin → Int → Int) (height : Nat) (s : State) :
    Books s (valUpdateStep P b height s).state (fun c => sumBy (stakeOf c) (valUpdateStep P b height s).dropped)
      (- sumBy (stakeOf 0) (valUpdateStep P b height s).dropped - (valUpdateStep P b height s).goneNonPos
        - (valUpdateStep P b height s).carry) 0 := by
  obtain ⟨u1, u2, u3, u4, u5⟩ := valUpdateStep_books P b height s
  refine ⟨fun c _ => ?_, ?_, by rw [u5, Int.add_zero]⟩
  · rw [u1 c, u2 c]; omega
  · have := u1 0
    simp only [baseTotal]
    omega

/-! ### when the defects vanish -/

theorem mergeExisting_rest_sublist (b : Coin → Int → Int) (sl : Slots) (us : List Stake) :
    (mergeExisting b sl us).2.Sublist us := by
  induction us generalizing sl with
  | nil => exact .slnil
  | cons x t ih =>
    rw [mergeExisting]
    split
    · exact (ih _).cons x
    · exact (ih _).cons_cons x

theorem droppedAll_zero (b : Coin → Int → Int) (cands : List Candidate)
    (h : ∀ cd ∈ cands, ∀ u ∈ cd.updates, 0 ≤ u.value) :
    ∀ u ∈ droppedAll b cands, u.value = 0 := by
  intro u hu
  simp only [droppedAll, List.mem_flatMap] at hu
  obtain ⟨cd, hcd, hu⟩ := hu
  simp only [recalcCand, droppedUpdates, List.mem_filter, Bool.not_eq_true', decide_eq_false_iff_not] at hu
  have := h cd hcd u ((mergeExisting_rest_sublist b _ _).subset hu.1)
  omega

theorem dropped_value_zero (c : Coin) (l : List Stake) (h : ∀ u ∈ l, u.value = 0) : sumBy (stakeOf c) l = 0 :=
  sumBy_eq_zero (fun u hu => by unfold stakeOf; rw [h u hu, ite_self])

theorem goneNonPos_zero (old : List Validator) (sel : List Candidate) (h : ∀ v ∈ old, 0 ≤ v.accum) :
    sumBy (fun v : Validator => if v.accum > 0 then 0 else v.accum) (goneValidators old sel) = 0 :=
  sumBy_eq_zero (fun v hv => by have := h v (List.mem_filter.mp hv).1; split <;> omega)

/-! #### carry: every accumulated reward is carried over exactly once when the public keys are pairwise different -/

def keyIn (sel : List Candidate) (v : Validator) : Bool := sel.any (fun c => c.pubkey == v.pubkey)

theorem keyIn_cons (c : Candidate) (t : List Candidate) (v : Validator) :
    keyIn (c :: t) v = (c.pubkey == v.pubkey || keyIn t v) := rfl

/-- With pairwise different keys at most one validator matches a key; `getLast?` finds it. -/
theorem carried_accum (old : List Validator) (hnd : (old.map (·.pubkey)).Nodup) (k : PubKey) :
    ((old.filter (fun v => v.pubkey == k)).getLast?.map (·.accum)).getD 0
      = sumBy (fun v => v.accum) (old.filter (fun v => v.pubkey == k)) := by
  induction old with
  | nil => rfl
  | cons x t ih =>
    simp only [List.map_cons, List.nodup_cons] at hnd
    by_cases hx : x.pubkey = k
    · have ht : t.filter (fun v => v.pubkey == k) = [] :=
        List.filter_eq_nil_iff.mpr (fun v hv he => hnd.1 (List.mem_map.mpr ⟨v, hv, by rw [eq_of_beq he, hx]⟩))
      simp [hx, ht, sumBy]
    · simp only [List.filter_cons, beq_iff_eq, hx, if_false]
      exact ih hnd.2

theorem sumBy_filter_keys (old : List Validator) (sel : List Candidate) (hsel : (sel.map (·.pubkey)).Nodup) :
    sumBy (fun c : Candidate => sumBy (fun v => v.accum) (old.filter (fun v => v.pubkey == c.pubkey))) sel
      = sumBy (fun v => v.accum) (old.filter (keyIn sel)) := by
  induction sel with
  | nil => rw [show old.filter (keyIn []) = [] from List.filter_eq_nil_iff.mpr (fun _ _ => Bool.false_ne_true)]; rfl
  | cons c t ih =>
    simp only [List.map_cons, List.nodup_cons] at hsel
    have hd : ∀ v : Validator, (v.pubkey == c.pubkey) = true → keyIn t v = false := fun v hv =>
      Bool.eq_false_iff.mpr (fun ha => by
        obtain ⟨c', hc', he⟩ := List.any_eq_true.mp ha
        exact hsel.1 (List.mem_map.mpr ⟨c', hc', by rw [eq_of_beq he, eq_of_beq hv]⟩))
    rw [sumBy, ih hsel.2, ← sumBy_filter_or _ _ _ _ hd]
    exact congrArg _ (List.filter_congr (fun v _ => by rw [keyIn_cons, BEq.comm]))

/-- The `carry` term of `EndDefect` (`ValUpdate.carry`) vanishes. -/
theorem carry_zero (old : List Validator) (sel : List Candidate)
    (hold : (old.map (·.pubkey)).Nodup) (hsel : (sel.map (·.pubkey)).Nodup) :
    sumBy (fun v => v.accum) old - sumBy (fun v => v.accum) (setNewValidators old sel).1
      - sumBy (fun v => v.accum) (goneValidators old sel) = 0 := by
  have hnew : sumBy (fun v => v.accum) (setNewValidators old sel).1
      = sumBy (fun c : Candidate => sumBy (fun v => v.accum) (old.filter (fun v => v.pubkey == c.pubkey))) sel := by
    simp only [setNewValidators, sumBy_map]
    exact sumBy_congr _ _ _ fun c => by
      rw [← carried_accum old hold]
      cases (old.filter (fun v => v.pubkey == c.pubkey)).getLast? <;> rfl
  have := sumBy_filter_split (fun v : Validator => v.accum) (keyIn sel) old
  rw [hnew, sumBy_filter_keys old sel hsel, show goneValidators old sel = old.filter (fun v => !keyIn sel v) from rfl]
  omega

end Minter
