import MinterProofs.AmountsFee
/-
  C02, the failure-fee path of DeliverTx (every transaction type): the fee a rejected transaction pays preserves `AmountsOk`.
-/
namespace Minter

/-- Price-table entries are not negative (they are set from RLP-decoded, hence non-negative, integers). -/
def PricesNonneg (s : State) : Prop := ∀ k, 0 ≤ priceOf s k

/-- What the failure-fee branch does: nothing, or one commission payment by a payer who holds it, with a sound commission. -/
theorem failFee_spec (P : Params) (o : Oracle) (s : State) (t : TxIn) (code : Nat) (f : Outcome)
    (ho : OracleSound o) (hP : 0 ≤ P.minReserve) (hok : AmountsOk s) (hpr : PricesNonneg s)
    (h : failFee P o s t code = .ok f) :
    f.moves = [] ∨ ∃ payer cm paid, payCommission s payer t.comCoin cm 0 = .ok paid ∧ f.moves = paid.moves ∧
      cm.commission ≤ balanceOf s payer t.comCoin ∧ ComSound s t.comCoin cm := by
  -- the price conversion and the capping are named (`conv`, `capped`) before the answer is taken apart, and looked at on their own;
  -- an `if` with a large branch is decided by `by_cases`, since `split` on it is slow to check
  unfold failFee at h
  simp only at h
  generalize hconv : (if (priceCoin s == 0) = true then _ else _ : M (Except Nat Int)) = conv at h
  split at h
  · cases h
  · cases h; exact Or.inl rfl
  next inBase0 =>
  have hin : 0 ≤ inBase0 := by
    split at hconv
    · cases hconv
      exact Int.mul_nonneg (Int.natCast_nonneg _) (Int.add_nonneg (hpr _) (Int.mul_nonneg (Int.natCast_nonneg _) (hpr _)))
    · split at hconv
      · cases hconv
      · cases hconv
      · split at hconv
        · cases hconv
        · cases hconv; omega
  clear hconv
  split at h
  · cases h
  · cases h; exact Or.inl rfl
  next com hcc =>
  obtain ⟨hsound, _⟩ := calcCommission_sound P o s t.comCoin inBase0 com ho hP hok hin hcc
  split at h
  · cases h; exact Or.inl rfl
  next payer _ =>
  by_cases hbal : balanceOf s payer t.comCoin ≤ 0
  · rw [if_pos hbal] at h; cases h; exact Or.inl rfl
  rw [if_neg hbal] at h
  generalize hcap : (if balanceOf s payer t.comCoin < com.commission then _ else _ : M (Except Nat Com)) = capped at h
  split at h
  · cases h
  · cases h; exact Or.inl rfl
  next cm =>
  split at h
  · cases h
  next paid hpay =>
  cases h
  refine Or.inr ⟨payer, cm, paid, hpay, rfl, ?_⟩
  by_cases hlt : balanceOf s payer t.comCoin < com.commission
  swap
  · rw [if_neg hlt] at hcap; cases hcap; exact ⟨by omega, hsound⟩
  rw [if_pos hlt] at hcap
  -- capped at the balance
  by_cases hfp : com.fromPool = true
  · -- pool route: nothing to show about a bancor reserve
    rw [if_pos hfp] at hcap
    split at hcap
    · cases hcap
    · split at hcap
      · cases hcap
      · cases hcap
      · split at hcap
        · cases hcap
        · cases hcap; exact ⟨Int.le_refl _, fun hx => (by simp at hx)⟩
  rw [if_neg hfp] at hcap
  have hfp' : com.fromPool = false := by simpa using hfp
  by_cases hg : (t.comCoin != 0) = true
  swap
  · rw [if_neg hg] at hcap; cases hcap; exact ⟨Int.le_refl _, fun _ hne => absurd (by simpa using hg) hne⟩
  rw [if_pos hg] at hcap
  obtain ⟨ci, hci, hres⟩ := calcCommission_reserve P o s t.comCoin inBase0 com hcc hfp' (by simpa using hg) (by omega)
  rw [hci] at hcap
  simp only [hres, if_true] at hcap
  split at hcap
  · cases hcap
  next hvol =>
  cases ha : ask o (OQ.saleReturn ci.volume ci.reserve ci.crr (balanceOf s payer t.comCoin)) with
  | error e => rw [ha] at hcap; cases hcap
  | ok r =>
    rw [ha] at hcap
    simp only at hcap
    split at hcap
    · cases hcap
    · cases hcap
      refine ⟨Int.le_refl _, fun _ _ => ?_⟩
      simp only [hci, optProp_some]
      exact ⟨by omega, by omega, ho.nonneg _ _ (ask_ok _ _ _ ha), by omega⟩

/-- A rejected delivery either moves nothing or is the failure fee computed by `failFee`. -/
theorem deliver_rejected (P : Params) (o : Oracle) (s : State) (b : Nat) (t : TxIn) (out : Outcome)
    (h : deliverTx P o s b t = .ok out) (hc : out.code ≠ 0) :
    out.moves = [] ∨ ∃ code, failFee P o s t code = .ok out := by
  unfold deliverTx at h
  split at h
  · cases h; exact Or.inl rfl
  · unfold deliverBody at h
    split at h
    · cases h
    · cases h; exact Or.inl rfl
    · split at h
      · cases h
      · next c _ =>
        obtain ⟨-, h⟩ := guard_throw_iff.mp h
        unfold failureOutcome at h
        split at h
        · next f hf =>
          simp only [guard_throw_iff] at h
          cases h.2.2.2
          exact Or.inr ⟨c, hf⟩
        · cases h
      · split at h
        · cases h
        · next r _ =>
          obtain ⟨_, _, _, h0, _⟩ := successOutcome_ok s t r out h
          exact absurd h0 hc

/-- **C02, failure path (all 37 types, all three commission routes, capped or not).**  A delivery that answers a non-zero code —
    rejected by the prologue, by the price conversion or by the handler, the latter paying the failure fee — preserves `AmountsOk`. -/
theorem C02_failure_fee (P : Params) (o : Oracle) (s s' : State) (b : Nat) (t : TxIn) (out : Outcome)
    (ho : OracleSound o) (hP : 0 ≤ P.minReserve) (hpr : PricesNonneg s)
    (h : deliverTx P o s b t = .ok out) (hc : out.code ≠ 0) (ha : applyChecked s out.plan = some s')
    (hok : AmountsOk s) : AmountsOk s' := by
  rcases deliver_rejected P o s b t out h hc with hm | ⟨code, hf⟩
  · simp only [Outcome.plan, hm, planOf, List.flatMap_nil, applyChecked] at ha
    cases ha; exact hok
  · rcases failFee_spec P o s t code out ho hP hok hpr hf with hm | ⟨payer, cm, paid, hpay, hm, hbal, hsound⟩
    · simp only [Outcome.plan, hm, planOf, List.flatMap_nil, applyChecked] at ha
      cases ha; exact hok
    · rw [Outcome.plan, hm] at ha
      exact (fee_preserves s s' payer t.comCoin cm 0 paid hok hsound hbal hpay ha).1

end Minter
