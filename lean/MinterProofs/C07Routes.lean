import MinterProofs.C07Pools
import Mathlib.Data.List.Chain
/-
  The three route transactions (SellSwapPool 23, BuySwapPool 24, SellAllSwapPool 25) on pools without orders: the validation loop never
  faults, and the execution loop repeats the validated computation hop by hop on the real pools (`sim_eq_real`), so none of the
  `PairSellWithOrders` / `PairBuyWithOrders` panics can fire. A buy route is walked from its last coin, hence the reversed list and the
  flipped `poolExists` in the chain of `routeBuyCheck_noPanic`.
-/
namespace Minter

theorem routeBasicGo_chain (s : State) : ∀ (rest : List Coin) (a : Coin), routeBasicGo s a rest = none →
    (a :: rest).IsChain (fun x y => poolExists s x y = true) := by
  intro rest
  induction rest with
  | nil => intro a _; exact List.IsChain.singleton a
  | cons b t ih =>
    intro a h
    unfold routeBasicGo at h
    split at h
    · cases h
    · split at h
      · cases h
      · rename_i hex
        rw [List.isChain_cons_cons]
        exact ⟨of_not_not_b hex, ih b h⟩

theorem routeBasic_chain (s : State) (coins : List Coin) (h : routeBasic s coins = none) :
    coins = coins.headD 0 :: coins.tail ∧ coins.IsChain (fun x y => poolExists s x y = true) := by
  unfold routeBasic at h
  split at h
  · cases h
  · rename_i hl
    split at h
    · cases h
    · cases coins with
      | nil => simp at hl
      | cons a t =>
        simp only at h
        exact ⟨rfl, routeBasicGo_chain s t a h⟩

theorem pairBuyMove_ok (P : Params) (s : State) (adj : Option PoolAdj) (payer : Addr) (a b : Coin) (amountOut : Int) (dest : Addr)
    (r0 r1 y : Int) (hres : poolResAdj s adj a b = some (r0, r1)) (hord : pairHasOrders s a b = false)
    (hout : 0 < amountOut) (hq : sfbNoOrders r0 r1 amountOut = .val y) (hy : 0 < y) (hcap : amountOut ≤ P.maxSupply) :
    ∃ mv, pairBuyMove P s adj payer a b amountOut dest = .ok (mv, y + com0999 y, ⟨a, b, y, -amountOut⟩) := by
  unfold pairBuyMove
  rw [hres]
  simp only [hord, Bool.false_eq_true, if_false]
  have h1 : ¬ (amountOut ≤ 0) := by omega
  simp only [h1, if_false, hq]
  have h2 : ¬ (y ≤ 0) := by omega
  have h3 : ¬ (amountOut > P.maxSupply) := by omega
  have hg := Lob.gross_net y hy.le
  have e : y + com1000 (y + com0999 y) = y + com0999 y := by omega
  simp only [h2, h3, if_false, e, ne_eq, not_true_eq_false]
  split <;> exact ⟨_, rfl⟩

/- The validation-loop lemmas (`routeSellCheck_noPanic`, `routeBuyCheck_noPanic`) take a `paid` only because `sim_eq_real`, which gives
   the positivity of the simulated reserves, is stated for a paid commission; the handlers get one from `payCommission_total`. -/
section
variable {P : Params} {s : State} (hinv : TxInv P s) (payer : Addr) (gas : Coin) (com : Com) (minOut : Int) (paid : Paid)
  (hpay : payCommission s payer gas com minOut = .ok paid) (hcomPos : com.fromPool = true → 0 < com.commission)
include hinv hpay hcomPos

theorem routeSellCheck_noPanic (minBuy : Int) : ∀ (rest : List Coin) (a : Coin) (v : Int) (used : List Nat),
    (a :: rest).IsChain (fun x y => poolExists s x y = true) → 0 ≤ v →
    NoPanic (routeSellCheck s gas com minBuy a rest v used) := by
  intro rest
  induction rest with
  | nil => intro a v used _ _; unfold routeSellCheck; exact NoPanic_pure _
  | cons b rest ih =>
    intro a v used hch hv
    rw [List.isChain_cons_cons] at hch
    unfold routeSellCheck
    simp only
    apply NoPanic_ite <;> intro _
    · exact NoPanic_pure _
    apply NoPanic_ite <;> intro _
    · exact NoPanic_unmodelled _
    cases hsim : simRes s gas com a b with
    | error e => exact NoPanic_throw_of (simRes_noPanic hinv _ _ _ _ hch.1 hcomPos) hsim
    | ok r =>
      obtain ⟨r0, r1⟩ := r
      obtain ⟨_, h0, h1⟩ := sim_eq_real s hinv.poolsOk payer gas com minOut paid hpay _ _ _ hsim
      obtain ⟨q, hq⟩ := checkSwapQuote_total r0 r1 v (if rest.isEmpty then minBuy else 0) false h0 h1 (by simpa using hv)
      simp only [hq]
      cases q with
      | error c => exact NoPanic_pure _
      | ok x =>
        simp only
        apply NoPanic_ite <;> intro hx
        · exact NoPanic_pure _
        · exact ih b x _ hch.2 (by omega)

omit hcomPos in
theorem routeSellExec_noPanic (minBuy : Int) (who : Addr) : ∀ (rest : List Coin) (a : Coin) (v : Int) (used : List Nat) (x : Int),
    0 ≤ v → routeSellCheck s gas com minBuy a rest v used = .ok (.ok x) →
    NoPanic (routeSellExec s paid.adj who a rest v) := by
  intro rest
  induction rest with
  | nil => intro a v used x _ _; unfold routeSellExec; exact NoPanic_pure _
  | cons b rest ih =>
    intro a v used x hv hc
    obtain ⟨-, hord, r0, r1, x1, hsim, hq, hx1, hc⟩ := routeSellCheck_cons hc
    obtain ⟨hreal, h0, h1⟩ := sim_eq_real s hinv.poolsOk payer gas com minOut paid hpay _ _ _ hsim
    have hcq := (checkSwapQuote_sell_ok _ _ _ _ _ hq).1
    obtain ⟨hvpos, hnet, hbfs⟩ := quoteBFS_pos r0 r1 v x1 hv hcq (by omega)
    obtain ⟨mv, hm⟩ := pairSellMove_ok s paid.adj who a b v 0 false who r0 r1 x1 hreal hord hvpos hnet hbfs hx1 (by omega)
    unfold routeSellExec
    rw [hm]
    simp only
    have hrec := ih b x1 _ x (by omega) hc
    split
    · exact NoPanic_throw_of hrec (by assumption)
    · exact NoPanic_pure _

theorem routeBuyCheck_noPanic (maxSell : Int) : ∀ (rest : List Coin) (b : Coin) (w : Int) (used : List Nat),
    (b :: rest).IsChain (fun x y => poolExists s y x = true) → 0 ≤ w →
    NoPanic (routeBuyCheck P s gas com maxSell b rest w used) := by
  intro rest
  induction rest with
  | nil => intro b w used _ _; unfold routeBuyCheck; exact NoPanic_pure _
  | cons a rest ih =>
    intro b w used hch hw
    rw [List.isChain_cons_cons] at hch
    unfold routeBuyCheck
    simp only
    apply NoPanic_ite <;> intro _
    · exact NoPanic_pure _
    apply NoPanic_ite <;> intro _
    · exact NoPanic_unmodelled _
    cases hsim : simRes s gas com a b with
    | error e => exact NoPanic_throw_of (simRes_noPanic hinv _ _ _ _ hch.1 hcomPos) hsim
    | ok r =>
      obtain ⟨r0, r1⟩ := r
      obtain ⟨_, h0, h1⟩ := sim_eq_real s hinv.poolsOk payer gas com minOut paid hpay _ _ _ hsim
      obtain ⟨q, hq⟩ := checkSwapQuote_total r0 r1 (if rest.isEmpty then maxSell else P.maxSupply) w true h0 h1 (by simpa using hw)
      simp only [hq]
      cases q with
      | error c => exact NoPanic_pure _
      | ok x =>
        simp only
        apply NoPanic_ite <;> intro hx
        · exact NoPanic_pure _
        · exact ih a x _ hch.2 (by omega)

omit hcomPos in
theorem routeBuyExec_noPanic (maxSell : Int) (who : Addr) : ∀ (rest : List Coin) (b : Coin) (w : Int) (used : List Nat) (x : Int),
    0 ≤ w → w ≤ P.maxSupply → routeBuyCheck P s gas com maxSell b rest w used = .ok (.ok x) →
    NoPanic (routeBuyExec P s paid.adj who b rest w) := by
  intro rest
  induction rest with
  | nil => intro b w used x _ _ _; unfold routeBuyExec; exact NoPanic_pure _
  | cons a rest ih =>
    intro b w used x hw hcap hc
    obtain ⟨-, hord, r0, r1, x1, hsim, hq, hx1, hc⟩ := routeBuyCheck_cons hc
    obtain ⟨hreal, h0, h1⟩ := sim_eq_real s hinv.poolsOk payer gas com minOut paid hpay _ _ _ hsim
    obtain ⟨hcq, hlim⟩ := checkSwapQuote_buy_ok _ _ _ _ _ hq
    obtain ⟨hwpos, y, hsfb, hy, hxy⟩ := quoteSFB_pos r0 r1 w x1 hw hcq (by omega)
    obtain ⟨mv, hm⟩ := pairBuyMove_ok P s paid.adj who a b w who r0 r1 y hreal hord hwpos hsfb hy hcap
    unfold routeBuyExec
    rw [hm]
    simp only
    have hrec : NoPanic (routeBuyExec P s paid.adj who a rest (y + com0999 y)) := by
      cases rest with
      | nil => unfold routeBuyExec; exact NoPanic_pure _
      | cons c rest' =>
        -- a hop that is not the last was validated against the limit `P.maxSupply`: that is the `hcap` of the next hop
        simp only [List.isEmpty_cons, Bool.false_eq_true, if_false] at hlim
        rw [← hxy]
        exact ih a x1 _ x (by omega) hlim hc
    split
    · exact NoPanic_throw_of hrec (by assumption)
    · exact NoPanic_pure _

end

section
variable {P : Params} {s : State} (hinv : TxInv P s) (o : Oracle) (t : TxIn) (hwf : TxWf t) (price : Int) (hp : 0 ≤ price)
include hinv hp hwf

theorem runSellPool_good : Good (ReadyGood P o s price) (runSellPool P o s t price) := by
  unfold runSellPool
  simp only
  cases hrb : routeBasic s (coinList (t.str "d.Coins")) with
  | some c => exact Good_error
  | none =>
    obtain ⟨hco, hch⟩ := routeBasic_chain s _ hrb
    rw [hco] at hch
    simp only
    refine (Good_withCom hinv o hp).mpr fun com hc hcg => ?_
    obtain ⟨paid, hpay⟩ := payCommission_total hinv t.sender t.gasCoin price com 0 hcg hp
    cases hchk : routeSellCheck s t.gasCoin com (t.int "d.MinimumValueToBuy") ((coinList (t.str "d.Coins")).headD 0)
        (coinList (t.str "d.Coins")).tail (t.int "d.ValueToSell") [] with
    | error e =>
      exact Good_sub (routeSellCheck_noPanic hinv t.sender t.gasCoin com 0 paid hpay hcg.comPos _ _ _ _ _ hch (hwf.ints _)) hchk
    | ok r =>
      cases r with
      | error c => exact Good_error
      | ok x =>
        simp only [Good_guard, Good_ok]
        refine fun _ _ => ⟨hc, hp, fun paid' hpay' => ?_⟩
        simp only
        have hex := routeSellExec_noPanic hinv t.sender t.gasCoin com 0 paid' hpay' (t.int "d.MinimumValueToBuy") t.sender
          _ _ _ _ _ (hwf.ints _) hchk
        split
        · exact NoPanic_throw_of hex (by assumption)
        · exact NoPanic_pure _

omit hwf in
theorem runSellAllPool_good : Good (ReadyGood P o s price) (runSellAllPool P o s t price) := by
  unfold runSellAllPool
  simp only
  cases hrb : routeBasic s (coinList (t.str "d.Coins")) with
  | some c => exact Good_error
  | none =>
    obtain ⟨hco, hch⟩ := routeBasic_chain s _ hrb
    rw [hco] at hch
    simp only
    refine (Good_withCom hinv o hp).mpr fun com hc hcg => ?_
    obtain ⟨paid, hpay⟩ := payCommission_total hinv t.sender ((coinList (t.str "d.Coins")).headD 0) price com 0 hcg hp
    rw [Good_guard]
    intro hval
    cases hchk : routeSellCheck s ((coinList (t.str "d.Coins")).headD 0) com (t.int "d.MinimumValueToBuy") ((coinList (t.str "d.Coins")).headD 0)
        (coinList (t.str "d.Coins")).tail (balanceOf s t.sender ((coinList (t.str "d.Coins")).headD 0) - com.commission) [] with
    | error e =>
      exact Good_sub (routeSellCheck_noPanic hinv t.sender _ com 0 paid hpay hcg.comPos _ _ _ _ _ hch (by omega)) hchk
    | ok r =>
      cases r with
      | error c => exact Good_error
      | ok x =>
        refine Good_ok.mpr ⟨hc, hp, fun paid' hpay' => ?_⟩
        simp only
        have hex := routeSellExec_noPanic hinv t.sender _ com 0 paid' hpay' (t.int "d.MinimumValueToBuy") t.sender
          _ _ _ _ _ (by omega) hchk
        split
        · exact NoPanic_throw_of hex (by assumption)
        · exact NoPanic_pure _

/-- `hcap`: `PairBuyWithOrders` panics when `amount1Out` exceeds its argument `maxAmount0In` (orderV2.go), for which BuySwapPool passes
    `maxCoinSupply`; `pairBuyMove` keeps that site. -/
theorem runBuyPool_good (hcap : t.int "d.ValueToBuy" ≤ P.maxSupply) : Good (ReadyGood P o s price) (runBuyPool P o s t price) := by
  unfold runBuyPool
  simp only
  cases hrb : routeBasic s (coinList (t.str "d.Coins")) with
  | some c => exact Good_error
  | none =>
    obtain ⟨hco, hch⟩ := routeBasic_chain s _ hrb
    have hne : coinList (t.str "d.Coins") ≠ [] := by rw [hco]; simp
    have hrev := reverse_head_tail _ hne
    have hch' : ((coinList (t.str "d.Coins")).reverse.headD 0 :: (coinList (t.str "d.Coins")).reverse.tail).IsChain
        (fun x y => poolExists s y x = true) := by
      rw [← hrev, List.isChain_reverse]
      exact hch
    simp only
    refine (Good_withCom hinv o hp).mpr fun com hc hcg => ?_
    obtain ⟨paid, hpay⟩ := payCommission_total hinv t.sender t.gasCoin price com 0 hcg hp
    cases hchk : routeBuyCheck P s t.gasCoin com (t.int "d.MaximumValueToSell") ((coinList (t.str "d.Coins")).reverse.headD 0)
        (coinList (t.str "d.Coins")).reverse.tail (t.int "d.ValueToBuy") [] with
    | error e =>
      exact Good_sub (routeBuyCheck_noPanic hinv t.sender t.gasCoin com 0 paid hpay hcg.comPos _ _ _ _ _ hch' (hwf.ints _)) hchk
    | ok r =>
      cases r with
      | error c => exact Good_error
      | ok x =>
        simp only [Good_guard, Good_ok]
        refine fun _ _ => ⟨hc, hp, fun paid' hpay' => ?_⟩
        simp only
        have hex := routeBuyExec_noPanic hinv t.sender t.gasCoin com 0 paid' hpay' (t.int "d.MaximumValueToSell") t.sender
          _ _ _ _ _ (hwf.ints _) hcap hchk
        split
        · exact NoPanic_throw_of hex (by assumption)
        · exact NoPanic_pure _

end

end Minter
