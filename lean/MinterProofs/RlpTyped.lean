import MinterProofs.Rlp
/-
  Typed layer over RLP items (uints, big ints, the outer transaction, signatures): each reader accepts exactly the
  canonical item of the value it returns.
-/
namespace Minter
namespace Rlp

theorem asBig_eq_some {x : Item} {n : Nat} : asBig x = some n ↔ x = uintItem n := by
  cases x with
  | list l => exact ⟨nofun, nofun⟩
  | str b =>
    simp only [asBig, uintItem, Option.ite_none_left_eq_some, Bool.not_eq_true, Bool.not_eq_false', Option.some.injEq,
      Item.str.injEq]
    constructor
    · rintro ⟨hz, rfl⟩; exact (natBE_beNat b hz).symm
    · rintro rfl; exact ⟨noLeadZero_natBE n, beNat_natBE n⟩

/-- `Stream.uint(bits)` is `decodeBigInt` with a bound on the length. -/
theorem asUint_eq_some {bits : Nat} {x : Item} {n : Nat} :
    asUint bits x = some n ↔ x = uintItem n ∧ n < 256 ^ (bits / 8) := by
  cases x with
  | list l => exact ⟨nofun, fun h => nomatch h.1⟩
  | str b =>
    rw [show asUint bits (.str b) = if b.length > bits / 8 then none else asBig (.str b) from rfl,
      Option.ite_none_left_eq_some, asBig_eq_some, and_comm, Nat.not_lt]
    refine and_congr_right fun e => ?_
    cases e
    exact natBE_length_le_iff

theorem asBytes_eq_some {x : Item} {s : Bytes} : asBytes x = some s ↔ x = .str s := by
  cases x with
  | list l => exact ⟨nofun, nofun⟩
  | str b => exact ⟨fun h => by cases h; rfl, fun h => by cases h; rfl⟩

theorem asFixed_sound {k : Nat} {x : Item} {s : Bytes} (h : asFixed k x = some s) : x = .str s ∧ s.length = k := by
  cases x with
  | list l => cases h
  | str b =>
    simp only [asFixed, Option.ite_none_right_eq_some, Option.some.injEq] at h
    exact ⟨by rw [h.2], h.2 ▸ h.1⟩

theorem asUint_uintItem {bits n : Nat} (h : n < 256 ^ (bits / 8)) : asUint bits (uintItem n) = some n :=
  asUint_eq_some.mpr ⟨rfl, h⟩

theorem txOfItem_eq_some {x : Item} {t : TxFields} : txOfItem x = some t ↔ x = itemOfTx t ∧ t.wf = true := by
  constructor
  · intro h
    unfold txOfItem at h
    split at h
    · split at h
      · next ha hb hc hd he hf hg hh hi hj =>
        cases h
        rw [asUint_eq_some] at ha hb hc hd he hi
        rw [asBytes_eq_some] at hf hg hh hj
        simp only [itemOfTx, TxFields.wf, ha, hb, hc, hd, he, hi, hf, hg, hh, hj, decide_true, Bool.and_self, and_self]
      · cases h
    · cases h
  · rintro ⟨rfl, hw⟩
    simp only [TxFields.wf, Bool.and_eq_true, decide_eq_true_eq] at hw
    simp only [itemOfTx, txOfItem, asUint_uintItem, asBytes, hw, Nat.reduceDiv, Nat.reducePow]

theorem decodeTx_eq_some {b : Bytes} {t : TxFields} :
    decodeTx b = some t ↔ decode b = some (itemOfTx t) ∧ t.wf = true := by
  unfold decodeTx
  cases decode b with
  | none => exact ⟨nofun, fun h => nomatch h.1⟩
  | some x => simp only [txOfItem_eq_some, Option.some.injEq]

theorem sigOfItem_eq_some {x : Item} {v r s : Nat} :
    sigOfItem x = some (v, r, s) ↔ x = .list [uintItem v, uintItem r, uintItem s] := by
  constructor
  · intro h
    unfold sigOfItem at h
    split at h
    · split at h
      · next hv hr hs =>
        cases h
        rw [asBig_eq_some.mp hv, asBig_eq_some.mp hr, asBig_eq_some.mp hs]
      · cases h
    · cases h
  · rintro rfl
    simp only [sigOfItem, asBig_eq_some.mpr rfl]

theorem decodeSig_eq_some {b : Bytes} {v r s : Nat} :
    decodeSig b = some (v, r, s) ↔ decode b = some (.list [uintItem v, uintItem r, uintItem s]) := by
  unfold decodeSig
  cases decode b with
  | none => exact ⟨nofun, nofun⟩
  | some x => simp only [sigOfItem_eq_some, Option.some.injEq]

theorem secpHalfN_eq : secpHalfN * 2 + 1 = secpN := by decide

end Rlp
end Minter
