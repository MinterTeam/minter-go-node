import MinterModel.Orders
import MinterProofs.Props.C13
import MinterProofs.FloatLemmas
import Mathlib.Tactic.Linarith
import Mathlib.Tactic.Ring
/-
  What C13Orders and C14 say about a single fill.  "At the order's own price" is stated without rationals, by
  cross-multiplication: `fillSlack` is what the owner receives above the exact price, and `FillOk` bounds it by one unit of
  either coin.  Since `ratInt` is the floor (FloatLemmas), a partial fill is the floor of the proportional amount and meets
  `FillOk`; `Consumed` is the shape of the fill list of a whole walk.
-/
namespace Minter.Lob
open Minter

/-- `sellLoop`, partial fill: `com1001 rest` is set aside from the input, `com1000` of the filled amount is charged. -/
theorem partial_commission_le (rest : Int) (hr : 0 ≤ rest) :
    com1000 (rest - com1001 rest) ≤ com1001 rest := by
  rw [com1000_ceil _ (by have := com1001_bounds rest hr; omega), com1001_ceil rest hr]
  omega

@[simp] theorem sumBuy_nil : sumBuy [] = 0 := rfl
@[simp] theorem sumSell_nil : sumSell [] = 0 := rfl
@[simp] theorem sumBuy_cons (f : Fill) (fs : List Fill) : sumBuy (f :: fs) = f.buy + sumBuy fs := rfl
@[simp] theorem sumSell_cons (f : Fill) (fs : List Fill) : sumSell (f :: fs) = f.sell + sumSell fs := rfl

theorem sortBook_perm (sorted : Bool) (book : List Order) : (sortBook sorted book).Perm book := by
  unfold sortBook
  refine ((List.mergeSort_perm _ _).map _).trans ?_
  rw [List.map_map]
  -- the second component of `o ↦ (sortKey o, o)` is `o`
  exact .of_eq (List.map_id book)

/-- What the owner received above (+) or below (−) the order's exact price, in units of (coin0 × wantSell). -/
def fillSlack (o : Order) (f : Fill) : Int := f.buy * o.wantSell - f.sell * o.wantBuy

/-- `owner_price`: the owner is short by less than one unit of the coin he buys; `taker_price`: the taker is short by less
    than one unit of the coin he receives. -/
structure FillOk (o : Order) (f : Fill) : Prop where
  id : f.id = o.id
  owner : f.owner = o.owner
  buy_nonneg : 0 ≤ f.buy
  buy_le : f.buy ≤ o.wantBuy
  sell_nonneg : 0 ≤ f.sell
  sell_le : f.sell ≤ o.wantSell
  owner_price : -o.wantSell < fillSlack o f
  taker_price : fillSlack o f < o.wantBuy

theorem fullFill_ok (o : Order) (hb : 0 < o.wantBuy) (hs : 0 < o.wantSell) : FillOk o o.fullFill := by
  refine ⟨rfl, rfl, hb.le, le_rfl, hs.le, le_rfl, ?_, ?_⟩ <;> simp only [fillSlack, Order.fullFill] <;> linarith

theorem floor_part (v a w : Int) (hw : 0 < w) (hv : 0 ≤ v) (h0 : 0 ≤ a) (hle : a ≤ w) :
    0 ≤ v * a / w ∧ v * a / w ≤ v ∧ v * a / w * w ≤ v * a ∧ v * a < (v * a / w + 1) * w :=
  ⟨Int.ediv_nonneg (mul_nonneg hv h0) hw.le, Int.ediv_le_of_le_mul hw (mul_le_mul_of_nonneg_left hle hv),
    Int.ediv_mul_le _ hw.ne', Int.lt_ediv_add_one_mul_self _ hw⟩

/-- `calculateBuyForSellWithOrders`, partial fill: an amount that is returned is the floor, so neither of the two clamps
    has changed it.  That the `neg BFS 0` panic in front of them cannot fire is the same arithmetic, but is not stated: `h`
    assumes a result. -/
theorem partialSellAmount_eq (o : Order) (a0 a1 : Int) (hb : 0 < o.wantBuy) (hs : 0 < o.wantSell)
    (h0 : 0 ≤ a0) (hle : a0 ≤ o.wantBuy) (h : partialSellAmount o a0 = .ok a1) :
    a1 = o.wantSell * a0 / o.wantBuy := by
  have hq_le := (floor_part o.wantSell a0 o.wantBuy hb hs.le h0 hle).2.1
  have hfull : a0 = o.wantBuy → o.wantSell * a0 / o.wantBuy = o.wantSell :=
    fun e => by rw [e]; exact Int.mul_ediv_cancel _ hb.ne'
  unfold partialSellAmount at h
  simp only at h
  rw [ratInt_eq_ediv _ _ (mul_nonneg hs.le h0) hb, if_neg (not_lt.mpr hq_le)] at h
  split_ifs at h with _ hc
  · have := hfull hc.2
    omega
  · cases h
    rfl

theorem partialSell_ok (o : Order) (a0 a1 : Int) (hb : 0 < o.wantBuy) (hs : 0 < o.wantSell)
    (h0 : 0 ≤ a0) (hle : a0 ≤ o.wantBuy) (h : partialSellAmount o a0 = .ok a1) :
    FillOk o ⟨o.id, a0, a1, o.owner⟩ ∧ 0 ≤ fillSlack o ⟨o.id, a0, a1, o.owner⟩ := by
  obtain ⟨hnn, hq_le, hfl, hup⟩ := floor_part o.wantSell a0 o.wantBuy hb hs.le h0 hle
  rw [← partialSellAmount_eq o a0 a1 hb hs h0 hle h] at hnn hq_le hfl hup
  refine ⟨⟨rfl, rfl, h0, hle, hnn, hq_le, ?_, ?_⟩, ?_⟩ <;> simp only [fillSlack] <;> linarith

/-- `calculateSellForBuyWithOrders`, partial fill: likewise (`neg SFB 0`). -/
theorem partialBuyAmounts_eq (o : Order) (amount1 a0 a1 : Int) (hb : 0 < o.wantBuy) (hs : 0 < o.wantSell)
    (h0 : 0 ≤ amount1) (hle : amount1 ≤ o.wantSell) (h : partialBuyAmounts o amount1 = .ok (a0, a1)) :
    a0 = amount1 * o.wantBuy / o.wantSell ∧ a1 = amount1 := by
  have hfull : amount1 = o.wantSell → amount1 * o.wantBuy / o.wantSell = o.wantBuy :=
    fun e => by rw [e, mul_comm]; exact Int.mul_ediv_cancel _ hs.ne'
  have hlt : amount1 < o.wantSell → amount1 * o.wantBuy / o.wantSell < o.wantBuy :=
    fun hl => Int.ediv_lt_of_lt_mul hs (mul_comm amount1 _ ▸ mul_lt_mul_of_pos_left hl hb)
  unfold partialBuyAmounts at h
  simp only at h
  rw [ratInt_eq_ediv _ _ (mul_nonneg h0 hb.le) hs] at h
  split_ifs at h with hc _ hc
  · have := hfull hc.1
    omega
  · have := hlt hc.1
    omega
  · cases h
    exact ⟨rfl, rfl⟩

theorem partialBuy_ok (o : Order) (amount1 a0 a1 : Int) (hb : 0 < o.wantBuy) (hs : 0 < o.wantSell)
    (h0 : 0 ≤ amount1) (hle : amount1 ≤ o.wantSell) (h : partialBuyAmounts o amount1 = .ok (a0, a1)) :
    FillOk o ⟨o.id, a0, a1, o.owner⟩ ∧ fillSlack o ⟨o.id, a0, a1, o.owner⟩ ≤ 0 := by
  obtain ⟨hnn, hq_le, hfl, hup⟩ := floor_part o.wantBuy amount1 o.wantSell hs hb.le h0 hle
  obtain ⟨e0, rfl⟩ := partialBuyAmounts_eq o amount1 a0 a1 hb hs h0 hle h
  rw [mul_comm o.wantBuy, ← e0] at hnn hq_le hfl hup
  refine ⟨⟨rfl, rfl, hnn, hq_le, h0, hle, ?_, ?_⟩, ?_⟩ <;> simp only [fillSlack] <;> linarith
/-- `Consumed book fs`: `fs` are fills of the first orders of `book`, in order; every order in front of the last
    touched one is consumed completely. -/
inductive Consumed : List Order → List Fill → Prop where
  | none (bk : List Order) : Consumed bk []
  | full (o : Order) (bk : List Order) (fs : List Fill) : Consumed bk fs → Consumed (o :: bk) (o.fullFill :: fs)
  | part (o : Order) (bk : List Order) (f : Fill) : FillOk o f → Consumed (o :: bk) [f]

end Minter.Lob
