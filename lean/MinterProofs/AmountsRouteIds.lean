import MinterProofs.AmountsPool
/-
  C02, routes: the handlers' duplicate-pool check (code 710) makes the pools of a route pairwise distinct (`RouteDistinct`):
  the same pair of coins has the same pool id, and the validation loops refuse an id they have seen.
-/
namespace Minter

def pairsOf : Coin → List Coin → List (Coin × Coin)
  | _, [] => []
  | a, b :: t => (a, b) :: pairsOf b t

def samePair (p q : Coin × Coin) : Prop := (p.1 = q.1 ∧ p.2 = q.2) ∨ (p.1 = q.2 ∧ p.2 = q.1)

/-- No pool is crossed twice. -/
def RouteDistinct (a : Coin) (rest : List Coin) : Prop := (pairsOf a rest).Pairwise (fun p q => ¬ samePair p q)

theorem poolId_flip (s : State) (hs : PoolsSorted s) (a b : Coin) : poolId s a b = poolId s b a := by
  unfold poolId
  cases h1 : getPool s a b with
  | none => cases getPool s b a <;> rfl
  | some p =>
    cases h2 : getPool s b a with
    | none => rfl
    | some q => exact absurd (getPool_lt hs h1) (Nat.lt_asymm (getPool_lt hs h2))

theorem samePair_poolId (s : State) (hs : PoolsSorted s) (p q : Coin × Coin) (h : samePair p q) :
    poolId s p.1 p.2 = poolId s q.1 q.2 := by
  rcases h with ⟨h1, h2⟩ | ⟨h1, h2⟩
  · rw [h1, h2]
  · rw [h1, h2]; exact poolId_flip s hs _ _

/-- Distinct pool ids along the route ⇒ no pool crossed twice. -/
theorem routeDistinct_of_ids (s : State) (hs : PoolsSorted s) (a : Coin) (rest : List Coin)
    (h : ((pairsOf a rest).map fun pr => poolId s pr.1 pr.2).Nodup) : RouteDistinct a rest := by
  unfold RouteDistinct
  rw [List.Nodup, List.pairwise_map] at h
  exact h.imp (fun hne hsp => hne (samePair_poolId s hs _ _ hsp))

theorem routeDistinct_of_ids_rev (s : State) (hs : PoolsSorted s) (a : Coin) (rest : List Coin)
    (h : ((pairsOf a rest).map fun pr => poolId s pr.2 pr.1).Nodup) : RouteDistinct a rest := by
  rw [show (fun pr : Coin × Coin => poolId s pr.2 pr.1) = fun pr => poolId s pr.1 pr.2 from funext fun pr => poolId_flip s hs _ _] at h
  exact routeDistinct_of_ids s hs a rest h

/-- One turn of the validation loops: an id that was not seen is put before ids that are pairwise distinct and differ from it and
    from those seen. -/
theorem ids_cons {id : Nat} {used ids : List Nat} (hu : used.contains id = false) (hnd : ids.Nodup) (hnot : ∀ i ∈ id :: used, i ∉ ids) :
    (id :: ids).Nodup ∧ ∀ i ∈ used, i ∉ id :: ids := by
  have hu : id ∉ used := by simpa using hu
  refine ⟨List.nodup_cons.mpr ⟨hnot _ (List.mem_cons_self ..), hnd⟩, fun i hi => ?_⟩
  rw [List.mem_cons, not_or]
  exact ⟨fun e => hu (e ▸ hi), hnot i (List.mem_cons_of_mem _ hi)⟩

/-- A sell route that passed validation crossed pools with pairwise distinct ids, none of them in `used`. -/
theorem routeSellCheck_ids (s : State) (gas : Coin) (com : Com) (minBuy : Int) :
    ∀ (rest : List Coin) (a : Coin) (value : Int) (used : List Nat) (x : Int),
      routeSellCheck s gas com minBuy a rest value used = .ok (.ok x) →
      ((pairsOf a rest).map fun pr => poolId s pr.1 pr.2).Nodup ∧ ∀ i ∈ used, i ∉ (pairsOf a rest).map fun pr => poolId s pr.1 pr.2 := by
  intro rest
  induction rest with
  | nil => intro a value used x _; simp [pairsOf]
  | cons b t ih =>
    intro a value used x h
    obtain ⟨hused, -, r0, r1, x1, -, -, -, hrec⟩ := routeSellCheck_cons h
    obtain ⟨hnd, hnot⟩ := ih b _ _ _ hrec
    exact ids_cons hused hnd hnot

theorem routeBuyCheck_ids (P : Params) (s : State) (gas : Coin) (com : Com) (maxSell : Int) :
    ∀ (rest : List Coin) (b : Coin) (want : Int) (used : List Nat) (x : Int),
      routeBuyCheck P s gas com maxSell b rest want used = .ok (.ok x) →
      ((pairsOf b rest).map fun pr => poolId s pr.2 pr.1).Nodup ∧ ∀ i ∈ used, i ∉ (pairsOf b rest).map fun pr => poolId s pr.2 pr.1 := by
  intro rest
  induction rest with
  | nil => intro b want used x _; simp [pairsOf]
  | cons a t ih =>
    intro b want used x h
    obtain ⟨hused, -, r0, r1, x1, -, -, -, hrec⟩ := routeBuyCheck_cons h
    obtain ⟨hnd, hnot⟩ := ih a _ _ _ hrec
    exact ids_cons hused hnd hnot

end Minter
