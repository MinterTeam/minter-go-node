import MinterProofs.AmountsFee
import MinterProofs.AmountsMoves
/-
  C02, the success path of DeliverTx.  It is cut into its stages: commission payment (state `s1`), the handler's own moves, the ticker
  burn and the nonce bump.  The last two never endanger `AmountsOk`; so a type is covered as soon as its handler is shown to have
  checked the commission (`Checked`) and its own moves to keep the amounts in range in the state `s1` that `FeeFrame` describes
  (`BodyKeeps`): `keeps_preserves`.  The settings-only types are done here.
-/
namespace Minter

variable {P : Params} {o : Oracle} {s : State} {t : TxIn} {price : Int} {rd : Ready}

theorem planOf_append (a b : List Move) : planOf (a ++ b) = planOf a ++ planOf b := by
  simp [planOf, List.flatMap_append]

theorem applyChecked_append_some (s s' : State) (p q : List Prim) (h : applyChecked s (p ++ q) = some s') :
    ∃ s1, applyChecked s p = some s1 ∧ applyChecked s1 q = some s' := by
  rw [applyChecked_append] at h
  cases hp : applyChecked s p with
  | none => rw [hp] at h; cases h
  | some s1 => rw [hp] at h; exact ⟨s1, rfl, h⟩

/-- **Stages of an accepted delivery**, with the handler's own moves located in the outcome: after the commission (state `s1`) come
    the handler's moves, the ticker burn (a credit of the zero address) and the nonce. -/
theorem deliver_stages (P : Params) (o : Oracle) (s s' : State) (b : Nat) (t : TxIn) (out : Outcome)
    (h : deliverTx P o s b t = .ok out) (h0 : out.code = 0) (ha : applyChecked s out.plan = some s') :
    ∃ price rd paid body tags s1, 0 ≤ price ∧ runData P o s b t price = .ok (.ok rd) ∧
      payCommission s rd.payer rd.coin rd.com rd.minOut = .ok paid ∧ rd.exec paid.adj = .ok (body, tags) ∧
      applyChecked s (planOf paid.moves) = some s1 ∧
      (AmountsOk (applyAll s1 (planOf body)) → AmountsOk s') ∧ (∀ m ∈ body, m ∈ out.moves) := by
  obtain ⟨-, price, rd, r, hb, hr, hx, hs⟩ := deliver_accepted P o s b t out h h0
  obtain ⟨paid, body, tags, hpay, he, -, hmoves, -⟩ := execReady_ok s rd r hx
  obtain ⟨burn, btags, hbn, -, hm, -⟩ := successOutcome_ok s t r out hs
  rw [Outcome.plan, hm, successMoves, hmoves, List.append_assoc, List.append_assoc, planOf_append] at ha
  obtain ⟨s1, h1, ha⟩ := applyChecked_append_some _ _ _ _ ha
  cases applyChecked_eq_applyAll _ _ _ ha
  refine ⟨price, rd, paid, body, tags, s1, basePrice_nonneg s t price hb, hr, hpay, he, h1, fun hok2 => ?_, fun m hmm => ?_⟩
  · rw [planOf_append, planOf_append, applyAll_append, applyAll_append]
    refine AmountsOk.setNonce ?_ t.sender t.nonce
    rcases tickerBurn_eq_ok s t burn btags hbn with ⟨rfl, -⟩ | ⟨-, v, hv, -, rfl, -⟩
    · exact hok2
    · exact (hok2.addRewards _).credit 0 0 (Int.le_of_lt hv)
  · rw [hm, successMoves, hmoves]; simp [hmm]

/-- What every handler establishes before it answers `Ready`: the commission was computed by `CalculateCommission` for the coin it is
    paid in, and the payer holds it. -/
structure Checked (P : Params) (o : Oracle) (s : State) (price : Int) (rd : Ready) : Prop where
  comOk : calcCommission P o s rd.coin price = .ok (.ok rd.com)
  funds : rd.com.commission ≤ balanceOf s rd.payer rd.coin

/-- The commission stage for a checked handler. -/
theorem fee_stage (P : Params) (o : Oracle) (s s1 : State) (price : Int) (rd : Ready) (paid : Paid)
    (ho : OracleSound o) (hP : 0 ≤ P.minReserve) (hok : AmountsOk s) (hp : 0 ≤ price) (hck : Checked P o s price rd)
    (hpay : payCommission s rd.payer rd.coin rd.com rd.minOut = .ok paid)
    (h1 : applyChecked s (planOf paid.moves) = some s1) :
    AmountsOk s1 ∧ FeeFrame s s1 rd.payer rd.coin rd.com paid.adj :=
  fee_preserves s s1 rd.payer rd.coin rd.com rd.minOut paid hok
    (calcCommission_sound P o s rd.coin price rd.com ho hP hok hp hck.comOk).1 hck.funds hpay h1

/-- The handler's own moves, executed in any state the commission payment can leave, lead to a state in range. -/
def BodyKeeps (s : State) (rd : Ready) : Prop :=
  ∀ s1 paid body tags, payCommission s rd.payer rd.coin rd.com rd.minOut = .ok paid →
    FeeFrame s s1 rd.payer rd.coin rd.com paid.adj → AmountsOk s1 → rd.exec paid.adj = .ok (body, tags) →
    AmountsOk (applyAll s1 (planOf body))

/-- **Accepted delivery of a checked handler whose own moves keep the amounts in range after the commission.** -/
theorem keeps_preserves (P : Params) (o : Oracle) (s s' : State) (b : Nat) (t : TxIn) (out : Outcome)
    (ho : OracleSound o) (hP : 0 ≤ P.minReserve)
    (hspec : ∀ price rd, 0 ≤ price → runData P o s b t price = .ok (.ok rd) → Checked P o s price rd ∧ BodyKeeps s rd)
    (h : deliverTx P o s b t = .ok out) (h0 : out.code = 0) (ha : applyChecked s out.plan = some s')
    (hok : AmountsOk s) : AmountsOk s' := by
  obtain ⟨price, rd, paid, body, tags, s1, hp, hr, hpay, he, h1, hfin, -⟩ := deliver_stages P o s s' b t out h h0 ha
  obtain ⟨hck, hbody⟩ := hspec price rd hp hr
  obtain ⟨hok1, hfr⟩ := fee_stage P o s s1 price rd paid ho hP hok hp hck hpay h1
  exact hfin (hbody s1 paid body tags hpay hfr hok1 he)

/-- What a handler that answers a fixed list of moves has to show: `CalculateCommission` succeeded for the commission coin, the payer
    holds the commission, and the moves keep the amounts in range in any state the commission payment can leave. -/
theorem typed_of_exec {P : Params} {o : Oracle} {s : State} {price : Int} {rd : Ready} {body : List Move} {tags : List (String × String)}
    (hcom : calcCommission P o s rd.coin price = .ok (.ok rd.com)) (hf : rd.com.commission ≤ balanceOf s rd.payer rd.coin)
    (hex : ∀ adj, rd.exec adj = .ok (body, tags))
    (h : ∀ s1 adj, FeeFrame s s1 rd.payer rd.coin rd.com adj → AmountsOk s1 → AmountsOk (applyAll s1 (planOf body))) :
    Checked P o s price rd ∧ BodyKeeps s rd :=
  ⟨⟨hcom, hf⟩, fun s1 paid _ _ _ hfr hok1 he => by rw [hex] at he; cases he; exact h s1 paid.adj hfr hok1⟩

/-- Every handler that ends in `ready t com body tags` is the case `payer = t.sender`, `coin = t.gasCoin`, `minOut = 0`. -/
theorem ready_typed {P : Params} {o : Oracle} {s : State} {price : Int} {payer : Addr} {coin : Coin} {com : Com} {minOut : Int}
    {body : List Move} {tags : List (String × String)}
    (hcom : calcCommission P o s coin price = .ok (.ok com)) (hf : com.commission ≤ balanceOf s payer coin)
    (h : ∀ s1 adj, FeeFrame s s1 payer coin com adj → AmountsOk s1 → AmountsOk (applyAll s1 (planOf body))) :
    Checked P o s price { payer := payer, coin := coin, com := com, minOut := minOut, exec := fun _ => pure (body, tags) } ∧
    BodyKeeps s { payer := payer, coin := coin, com := com, minOut := minOut, exec := fun _ => pure (body, tags) } :=
  typed_of_exec hcom hf (fun _ => rfl) h

/-! ### Bodies made of settings only -/

theorem admin_moves_keep (s : State) (hok : AmountsOk s) (body : List Move) (h : ∀ m ∈ body, ∃ p, m = .admin p) :
    AmountsOk (applyAll s (planOf body)) := by
  induction body generalizing s with
  | nil => exact hok
  | cons m t ih =>
    obtain ⟨p, rfl⟩ := h _ (List.mem_cons_self ..)
    have ht := fun s' hok' => ih s' hok' fun x hx => h x (List.mem_cons_of_mem _ hx)
    rw [planOf_cons, applyAll_append]
    simp only [Move.prims]
    split
    · next hp => exact ht _ (hok.admin hp)
    · exact ht _ hok

/-- `ready_typed` for a handler whose own moves are settings only, from what the inversion lemmas leave of it: the commission, the
    balance check and the answer. -/
theorem ready_settings {body : List Move} {tags : List (String × String)}
    (h : ∃ com, calcCommission P o s t.gasCoin price = .ok (.ok com) ∧ ¬ balanceOf s t.sender t.gasCoin < com.commission ∧
      rd = { payer := t.sender, coin := t.gasCoin, com := com, exec := fun _ => pure (body, tags) })
    (hb : ∀ m ∈ body, ∃ p, m = .admin p) : Checked P o s price rd ∧ BodyKeeps s rd := by
  obtain ⟨com, hcom, hf, rfl⟩ := h
  exact ready_typed hcom (Int.not_lt.mp hf) fun s1 _ _ hok1 => admin_moves_keep s1 hok1 body hb

theorem setOn_typed {block : Nat} (h : runSetOn P o s block t price = .ok (.ok rd)) : Checked P o s price rd ∧ BodyKeeps s rd := by
  simp only [runSetOn] at h
  split at h
  · cases h
  · simp only [guard_ready_iff, withCom_ready_iff, ready_iff] at h
    obtain ⟨com, hcom, hbal, -, rfl⟩ := h
    exact ready_settings ⟨com, hcom, hbal, rfl⟩ (by simp)

theorem setOff_typed (h : runSetOff P o s t price = .ok (.ok rd)) : Checked P o s price rd ∧ BodyKeeps s rd := by
  simp only [runSetOff] at h
  split at h
  · cases h
  · simp only [guard_ready_iff, withCom_ready_iff, ready_iff] at h
    exact ready_settings h (by simp)

theorem editCandidate_typed (h : runEditCandidate P o s t price = .ok (.ok rd)) : Checked P o s price rd ∧ BodyKeeps s rd := by
  simp only [runEditCandidate] at h
  split at h
  · cases h
  · simp only [guard_ready_iff, withCom_ready_iff, ready_iff] at h
    exact ready_settings h (by simp)

theorem editPubKey_typed (h : runEditPubKey P o s t price = .ok (.ok rd)) : Checked P o s price rd ∧ BodyKeeps s rd := by
  simp only [runEditPubKey] at h
  split at h
  · cases h
  · simp only [guard_ready_iff, withCom_ready_iff, ready_iff] at h
    obtain ⟨-, -, com, hcom, hbal, -, rfl⟩ := h
    exact ready_settings ⟨com, hcom, hbal, rfl⟩ (by simp)

theorem editCommission_typed {block : Nat} (h : runEditCommission P o s block t price = .ok (.ok rd)) : Checked P o s price rd ∧ BodyKeeps s rd := by
  simp only [runEditCommission] at h
  split at h
  · cases h
  · simp only [guard_ready_iff, withCom_ready_iff, ready_iff] at h
    exact ready_settings h.2.2 (by simp)

theorem createMultisig_typed (h : runCreateMultisig P o s t price = .ok (.ok rd)) : Checked P o s price rd ∧ BodyKeeps s rd := by
  simp only [runCreateMultisig] at h
  split at h
  · cases h
  · simp only [guard_ready_iff, withCom_ready_iff, ready_iff] at h
    obtain ⟨com, hcom, hbal, -, rfl⟩ := h
    refine ready_settings ⟨com, hcom, hbal, rfl⟩ ?_
    split <;> simp

theorem editMultisig_typed (h : runEditMultisig P o s t price = .ok (.ok rd)) : Checked P o s price rd ∧ BodyKeeps s rd := by
  simp only [runEditMultisig, guard_ready_iff] at h
  obtain ⟨-, h⟩ := h
  split at h
  · cases h
  · simp only [guard_ready_iff, withCom_ready_iff, ready_iff] at h
    exact ready_settings h.2 (by simp)

theorem setHalt_typed {block : Nat} (h : runSetHalt P o s block t price = .ok (.ok rd)) : Checked P o s price rd ∧ BodyKeeps s rd := by
  simp only [runSetHalt, guard_ready_iff] at h
  obtain ⟨-, -, h⟩ := h
  split at h
  · cases h
  · simp only [guard_ready_iff, withCom_ready_iff, ready_iff] at h
    exact ready_settings h (by simp)

theorem voteCommission_typed {block : Nat} (h : runVoteCommission P o s block t price = .ok (.ok rd)) : Checked P o s price rd ∧ BodyKeeps s rd := by
  simp only [runVoteCommission, guard_ready_iff] at h
  obtain ⟨-, -, -, -, -, h⟩ := h
  split at h
  · cases h
  · simp only [guard_ready_iff, withCom_ready_iff, ready_iff] at h
    exact ready_settings h (by simp)

theorem voteUpdate_typed {block : Nat} (h : runVoteUpdate P o s block t price = .ok (.ok rd)) : Checked P o s price rd ∧ BodyKeeps s rd := by
  simp only [runVoteUpdate, guard_ready_iff] at h
  obtain ⟨-, -, -, h⟩ := h
  split at h
  · cases h
  · simp only [guard_ready_iff, withCom_ready_iff, ready_iff] at h
    exact ready_settings h (by simp)

theorem editCoinOwner_typed (h : runEditCoinOwner P o s t price = .ok (.ok rd)) : Checked P o s price rd ∧ BodyKeeps s rd := by
  simp only [runEditCoinOwner, guard_ready_iff, withCom_ready_iff, ready_iff] at h
  exact ready_settings h.2.2 (by simp)

theorem lockStake_typed {block : Nat} (h : runLockStake P o s block t price = .ok (.ok rd)) : Checked P o s price rd ∧ BodyKeeps s rd := by
  simp only [runLockStake, guard_ready_iff, withCom_ready_iff, ready_iff] at h
  exact ready_settings h (by simp)

/-- The settings-only transaction types: SetCandidateOn/Off (10, 11), CreateMultisig (12), EditCandidate (14), SetHaltBlock (15),
    EditCoinOwner (17), EditMultisig (18), EditCandidatePublicKey (20), EditCandidateCommission (26), VoteCommission (32),
    VoteUpdate (33), LockStake (37). -/
def settingsTypes : List Nat := [10, 11, 12, 14, 15, 17, 18, 20, 26, 32, 33, 37]

theorem settings_spec (P : Params) (o : Oracle) (s : State) (b : Nat) (t : TxIn) (price : Int) (rd : Ready)
    (ht : t.typ ∈ settingsTypes) (h : runData P o s b t price = .ok (.ok rd)) : Checked P o s price rd ∧ BodyKeeps s rd := by
  simp only [settingsTypes, List.mem_cons, List.mem_nil_iff, or_false] at ht
  unfold runData at h
  rcases ht with e | e | e | e | e | e | e | e | e | e | e | e <;> rw [e] at h
  · exact setOn_typed h
  · exact setOff_typed h
  · exact createMultisig_typed h
  · exact editCandidate_typed h
  · exact setHalt_typed h
  · exact editCoinOwner_typed h
  · exact editMultisig_typed h
  · exact editPubKey_typed h
  · exact editCommission_typed h
  · exact voteCommission_typed h
  · exact voteUpdate_typed h
  · exact lockStake_typed h

/-- **C02, settings-only types, every commission route.** -/
theorem C02_settings (P : Params) (o : Oracle) (s s' : State) (b : Nat) (t : TxIn) (out : Outcome)
    (ho : OracleSound o) (hP : 0 ≤ P.minReserve) (ht : t.typ ∈ settingsTypes)
    (h : deliverTx P o s b t = .ok out) (h0 : out.code = 0) (ha : applyChecked s out.plan = some s')
    (hok : AmountsOk s) : AmountsOk s' :=
  keeps_preserves P o s s' b t out ho hP (fun price rd _ hr => settings_spec P o s b t price rd ht hr) h h0 ha hok

end Minter
