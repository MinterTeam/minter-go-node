import MinterModel.Tx
import MinterProofs.Props.C07
import MinterProofs.PoolMono
/-
  On a pool without orders a purchase quote can always be executed as a sale ("round trip"): selling what
  `CalculateSellForBuyWithOrders` asked for returns at least the amount that was wanted. The validation of every handler computes the
  commission by that quote and the deliver side sells it with `PairSellWithOrders(commissionCoin, BIP, commission, minOut)`, whose
  panics (non-positive input, output below `minAmount1Out`, `checkSwap`) are therefore dead.
-/
namespace Minter

theorem bfs_val_pos (r0 r1 a x : Int) (h : bfsNoOrders r0 r1 a = .val x) (hx : 0 < x) : a ≠ 0 ∧ buyForSell r0 r1 a = some x := by
  unfold bfsNoOrders at h
  split at h
  · cases h; omega
  · rename_i ha
    split at h
    · cases h; omega
    · rename_i d hd
      split at h
      · cases h; exact ⟨ha, hd⟩
      · cases h

theorem sfb_val_pos (r0 r1 w x : Int) (h : sfbNoOrders r0 r1 w = .val x) (hx : 0 < x) : w ≠ 0 ∧ sellForBuy r0 r1 w = some x := by
  unfold sfbNoOrders at h
  split at h
  · cases h; omega
  · rename_i hw
    split at h
    · split at h
      · cases h
      · cases h; omega
    · rename_i d hd
      split at h
      · cases h; exact ⟨hw, hd⟩
      · cases h

theorem bfs_ne_nil (r0 r1 a : Int) : bfsNoOrders r0 r1 a ≠ .nil := by
  unfold bfsNoOrders
  split
  · intro h; cases h
  · split
    · intro h; cases h
    · split <;> (intro h; cases h)

theorem quoteBFS_ne_nil (r0 r1 a : Int) : quoteBuyForSell r0 r1 a ≠ .nil := by
  unfold quoteBuyForSell
  exact bfs_ne_nil _ _ _

theorem quoteBFS_pos (r0 r1 a x : Int) (ha : 0 ≤ a) (h : quoteBuyForSell r0 r1 a = .val x) (hx : 0 < x) :
    0 < a ∧ 0 < a - com1000 a ∧ bfsNoOrders r0 r1 (a - com1000 a) = .val x := by
  unfold quoteBuyForSell at h
  simp only at h
  by_cases hp : a > 0
  · simp only [hp, if_true] at h
    have hne := (bfs_val_pos _ _ _ _ h hx).1
    have := net_nonneg a ha
    exact ⟨hp, by omega, h⟩
  · have : a = 0 := by omega
    subst this
    simp only [gt_iff_lt, Int.lt_irrefl, if_false] at h
    have := (bfs_val_pos _ _ _ _ h hx).1
    exact absurd rfl this

theorem quoteSFB_pos (r0 r1 w x : Int) (hw : 0 ≤ w) (h : quoteSellForBuy r0 r1 w = .val x) (hx : 0 < x) :
    0 < w ∧ ∃ y, sfbNoOrders r0 r1 w = .val y ∧ 0 < y ∧ x = y + com0999 y := by
  unfold quoteSellForBuy at h
  split at h
  · rename_i y hy
    split at h
    · rename_i hy0
      cases h
      have := (sfb_val_pos _ _ _ _ hy hy0).1
      exact ⟨by omega, y, hy, hy0, rfl⟩
    · cases h; omega
  · rename_i hq
    exact absurd h (hq x)

/-- The bound is 2 because the burn rounds up: `com1000 1 = 1`, a sale of one pip has net input 0. -/
theorem net_pos_of_two (a : Int) (ha : 2 ≤ a) : 0 < a - com1000 a := by
  rw [com1000_ceil a (by omega)]
  omega

/-- `sellForBuy` rounds its quotient up (`… / 998 + 1`), so the product inequality of `sellForBuy_K_strict` is strict; that strictness
    is what puts the floor quotient of `buyForSell` strictly below `r1 - out` (`hq`), and the `- 1` of `buyForSell` then still leaves `out`. -/
theorem buyForSell_of_sellForBuy (r0 r1 out y : Int) (h0 : 0 < r0) (h1 : 0 < r1) (ho : 0 < out)
    (h : sellForBuy r0 r1 out = some y) : ∃ o, buyForSell r0 r1 y = some o ∧ out ≤ o := by
  obtain ⟨hlt, hy, hk⟩ := sellForBuy_K_strict r0 r1 out y h0 ho h
  have hq : r0 * r1 * 1000000 / (((y + r0) * 1000 - y * 2) * 1000) < r1 - out :=
    Int.ediv_lt_of_lt_mul (by omega) (by linarith)
  exact ⟨_, (buyForSell_some h0.le h1.le).2 ⟨by omega, rfl⟩, by omega⟩

theorem bfs_of_buyForSell (r0 r1 a o : Int) (h0 : 0 < r0) (h1 : 0 < r1) (ha : 0 < a)
    (h : buyForSell r0 r1 a = some o) : bfsNoOrders r0 r1 a = .val o := by
  obtain ⟨ho0, ho1, hk, _⟩ := buyForSell_K r0 r1 a o h0 h1 ha h
  simp only [bfsNoOrders, ha.ne', if_false, h, checkSwap_none h0.le ha ho0 ho1.le hk]

/-- C07, the commission round trip. The quoted gross is `x = y + com0999 y` with `y` the kernel's input; `Lob.gross_net` says the net of
    that gross is exactly `y`, so the sale feeds the kernel the very input `sellForBuy` computed and `buyForSell_of_sellForBuy` applies.
    `2 ≤ x` comes from `com0999 y ≥ 1`. -/
theorem quote_round_trip (r0 r1 out x : Int) (h0 : 0 < r0) (h1 : 0 < r1) (ho : 0 ≤ out)
    (h : quoteSellForBuy r0 r1 out = .val x) (hx : 0 < x) :
    0 < out ∧ 2 ≤ x ∧ 0 < x - com1000 x ∧ ∃ o, bfsNoOrders r0 r1 (x - com1000 x) = .val o ∧ out ≤ o := by
  obtain ⟨hop, y, hy, hy0, rfl⟩ := quoteSFB_pos r0 r1 out x ho h hx
  obtain ⟨o, hbs, hle⟩ := buyForSell_of_sellForBuy r0 r1 out y h0 h1 hop (sfb_val_pos _ _ _ _ hy hy0).2
  have hc := Lob.gross_net y hy0.le
  have h999 := com0999_ceil y hy0.le
  refine ⟨hop, by omega, by omega, o, ?_, hle⟩
  rw [hc]
  exact bfs_of_buyForSell r0 r1 y o h0 h1 hy0 hbs

theorem checkSwapQuote_total (r0 r1 vi vo : Int) (isBuy : Bool) (h0 : 0 < r0) (h1 : 0 < r1)
    (ha : 0 ≤ (if isBuy then vo else vi)) : ∃ r, checkSwapQuote r0 r1 vi vo isBuy = .ok r := by
  unfold checkSwapQuote
  cases isBuy with
  | true =>
    simp only [if_true] at ha ⊢
    have hnp := (C07_quote_no_panic r0 r1 vo h0 h1 ha).2
    split
    · rename_i w hw; exact absurd hw (hnp w)
    · exact ⟨_, rfl⟩
    · split <;> exact ⟨_, rfl⟩
  | false =>
    simp only [Bool.false_eq_true, if_false] at ha ⊢
    have hnp := (C07_quote_no_panic r0 r1 vi h0 h1 ha).1
    split
    · rename_i w hw; exact absurd hw (hnp w)
    · exact ⟨_, rfl⟩
    · rename_i y _
      by_cases hyy : y < (if vo = 0 then 1 else vo)
      · simp only [hyy, if_true]; exact ⟨_, rfl⟩
      · simp only [hyy, if_false]; exact ⟨_, rfl⟩

theorem checkSwapQuote_sell_ok (r0 r1 vi vo x : Int) (h : checkSwapQuote r0 r1 vi vo false = .ok (.ok x)) :
    quoteBuyForSell r0 r1 vi = .val x ∧ (if vo = 0 then 1 else vo) ≤ x := by
  unfold checkSwapQuote at h
  simp only [Bool.false_eq_true, if_false] at h
  split at h
  · cases h
  · cases h
  · rename_i y hy
    by_cases hyy : y < (if vo = 0 then 1 else vo)
    · simp only [hyy, if_true] at h; cases h
    · simp only [hyy, if_false] at h; cases h; exact ⟨hy, by omega⟩

theorem checkSwapQuote_buy_ok (r0 r1 vi vo x : Int) (h : checkSwapQuote r0 r1 vi vo true = .ok (.ok x)) :
    quoteSellForBuy r0 r1 vo = .val x ∧ x ≤ vi := by
  unfold checkSwapQuote at h
  simp only [if_true] at h
  split at h
  · cases h
  · cases h
  · rename_i y hy
    split at h
    · cases h
    · rename_i hle; cases h; exact ⟨hy, by omega⟩

end Minter
