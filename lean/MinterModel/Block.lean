import MinterModel.BeginBlock
import MinterModel.Rules
import MinterModel.ValidMonitor
/-
  One whole block as far as VALUE is concerned: `blockStep` = BeginBlock ; DeliverTx* ; EndBlock.

  `endBlock` follows `Blockchain.EndBlock` (coreV2/minter/blockchain.go) line by line, composing the pieces that are tied to the
  code one by one elsewhere:

    1. dropped validators hand their accumulated reward back to the block's pot           `returnDropped`     (Validators.lean)
    2. `calculatePowers`, block reward (0 once the emission reached the cap)              `totalPower`, `Rules.blockEmission`
    3. accrual loop, remainder → total slashed                                            `accrue` / `endBlockAccrue`
    4. `ExpireOrders(height − expire)` when `height > expire ∧ height % period = period/2` `expirePlan`        (ledger primitives)
    5. `PayRewardsV5Fix` when `height % period = 0`; `moreRewards` → emission             `payout`            (Validators.lean)
         every payment is `candidate.AddUpdate(baseCoin, v, v, address)`: a pending stake update on the validator's candidate,
         the validator's accumulated reward := 0, the remainder → total slashed (negative remainder: panic)
    6. below the cap: emission += safeReward, zero address += safeReward − reward when positive   `Rules.blockEmission`
    7. commission / version tallies, votes of this height deleted                          (no value; results are inputs)
    8. `updateValidators` when `height % period = 0`, a validator was dropped, or a public key changed:
         `RecalculateStakesV2` (bip values, updates merged into stakes / slots, kicked stakes → waitlist; candidates beyond
         rank 100 that are not validators deleted, everything they hold → frozen funds due `height + unbond`)
                                                                                          `recalcCandidate`, `prunedCandidates`, `unbondAll`
         `GetNewCandidates`, `SetNewValidators` (positive rewards of leaving validators → total slashed)
                                                                                          `selectValidators`, `setNewValidators`

  Inputs that are not part of the ledger state travel in `EndReq`: who signed, the cap, whether a public key changed in this
  block (an in-memory flag of the node), the results of the two tallies, and `bipOf` = `calculateBipValue` during the
  recalculation (identity for the base coin, a floating-point bonding-curve value otherwise).  The conservation theorems
  (MinterProofs/Props/C01Block.lean) hold for EVERY `bipOf`, every oracle and every tally result.

  Where the code can create or destroy value the model does the same and *names* the amount (`EndDefect`): the theorems are
  unconditional equations containing these terms, and each term is shown to vanish under the invariant that excludes it.

  Not modelled: `PayRewardsV3/V4/V5Bug` and `FixStakesAfter10509400` (only reachable before / within one period after the
  v3.3.0 switch height), events, statistics, `ValidatorUpdates` answered to Tendermint (C17), max gas.
  Trusted about the representation: `State.orders` is in id order and order heights do not decrease with the id (the node
  scans the committed orders by id and stops at the first one that is too young); the slots of a candidate are its listed
  stakes followed by free slots (the export does not carry slot positions; only ties of C17 depend on them).
  Core Lean only.
-/
namespace Minter

/-! ## What EndBlock reads besides the ledger -/

structure EndReq where
  height : Nat := 0
  signed : List Nat := []                              -- Tendermint addresses with `validatorsStatuses = ValidatorPresent`
  cap : Int := Rules.emissionCap                       -- `rewardsCounter.TotalEmissionBig()`
  changedKeys : Bool := false                          -- `Candidates.IsChangedPublicKeys()`
  bipOf : Coin → Int → Int := fun _ v => v             -- `calculateBipValue` of the recalculation
  newCommission : Option (List (String × Int)) := none -- `isUpdateCommissionsBlockV2(height)`: the price table that won
  newVersion : Option String := none                   -- `isUpdateNetworkBlockV2(height)`: the version that won

/-- The places where `EndBlock` can create or destroy value, each with the amount.  All are zero in a well-formed state
    (`EndDefect.isZero`; `endDefect_zero_*` in Props/C01Block.lean); the conservation theorem carries them explicitly so that it holds for every state. -/
structure EndDefect where
  /-- `reward − safeReward` when positive (below the cap): the validators' pot receives `reward` but the emission counter
      only grows by `safeReward`.  Excluded by C28 `reward_le_safeReward`. -/
  overMint : Int := 0
  /-- `PayRewardsV5Fix`: proportional rewards of locked stakes whose increased reward came out below 1 pip — taken off the
      remainder, paid to nobody.  Excluded by C19 `payout_main` (`calcReward ≤ 3·safeReward`). -/
  lost : Int := 0
  /-- `getFilteredUpdates`: pending updates with a value ≤ 0 that found no stake to merge into are dropped; a negative value
      vanishes from the holdings.  Excluded when no pending update is negative. -/
  dropped : List Stake := []
  /-- `SetNewValidators`: accumulated rewards ≤ 0 of validators leaving the set are discarded (only positive ones go to the
      slashed total).  Excluded when no accumulated reward is negative. -/
  goneNonPos : Int := 0
  /-- `SetNewValidators`: accumulated rewards not carried over exactly once (two validators or two selected candidates with
      one public key).  Excluded when the public keys are pairwise different. -/
  carry : Int := 0
  deriving Repr

def droppedOf (c : Coin) (d : EndDefect) : Int := sumBy (stakeOf c) d.dropped

/-- Net base-coin value that appeared out of nothing in this EndBlock (0 when the state is well formed). -/
def EndDefect.base (d : EndDefect) : Int := d.overMint - d.lost - droppedOf 0 d - d.goneNonPos - d.carry

def EndDefect.isZero (d : EndDefect) : Bool :=
  d.overMint == 0 && d.lost == 0 && d.dropped.all (fun u => u.value == 0) && d.goneNonPos == 0 && d.carry == 0

/-- What one EndBlock did (for the comparison with the node and for the theorems). -/
structure EndOut where
  emit : Rules.Emit
  expired : List Order := []
  payouts : List (PubKey × PayOut) := []
  more : Int := 0
  updatedSet : Bool := false
  kicked : List WaitEntry := []
  pruned : List Candidate := []
  defect : EndDefect := {}

def unmodelledPrim : Stop := .unmodelled "endBlock: side condition of a ledger primitive failed"

def applyPlan (s : State) (ps : List Prim) : M State :=
  match applyChecked s ps with
  | some s' => .ok s'
  | none => .error unmodelledPrim

/-! ## 1–3. Accrual -/

def hasDropped (s : State) : Bool := s.validators.any (·.toDrop)

/-- Steps 1–3: the pot is `reward` (0 at the cap) + the fees of the block + what dropped validators hand back.
    `blockchain.rewards` keeps its value (fees + returned rewards) until the next BeginBlock resets it. -/
def accrueStep (s : State) (signed : List Nat) (e : Rules.Emit) : State :=
  let r := endBlockAccrue (e.toValidators + s.rewardsPool) s.validators (presentOf s signed)
  { s with validators := r.1, slashed := s.slashed + r.2, rewardsPool := s.rewardsPool + (returnDropped s.validators).2 }

/-! ## 4. Order expiry -/

/-- What the owner of a removed order gets back: the unfilled escrow, in the coin he sells. -/
def orderRefund (o : Order) : Coin × Int := if o.isSale then (o.c1, o.v1) else (o.c0, o.v0)

/-- `ExpireOrders(before)`: the scan over the orders by id stops at the first order younger than `before`. -/
def expiredOrders (s : State) (before : Nat) : List Order := s.orders.takeWhile (fun o => decide (o.height ≤ before))

/-- `removeLimitOrder` + `AddBalance` (skipped for a zero volume) for one order. -/
def expireOne (o : Order) : List Prim :=
  .delOrder o :: (if (orderRefund o).2 = 0 then [] else [.addBal o.owner (orderRefund o).1 (orderRefund o).2])

def expirePlan (os : List Order) : List Prim := os.flatMap expireOne

def expireDue (P : Params) (height : Nat) : Bool := decide (height > P.expire) && height % P.period == P.period / 2

/-! ## 5. Payout -/

/-- `IsX3Mining` reads `GetLockStakeUntilBlock(owner)`. -/
def pstakesOf (s : State) (c : Candidate) : List PStake :=
  c.stakes.map (fun st => { owner := st.owner, coin := st.coin, bip := st.bip, lockUntil := (s.lockStake.lookup st.owner).getD 0 })

/-- What `PayRewardsV5Fix` reads for validator `v` with candidate `c`. -/
def payInOf (s : State) (hpay : Nat) (period : Int) (tA tS : Int) (v : Validator) (c : Candidate) : PayIn :=
  { accum := v.accum, valStake := v.totalBip, commission := c.commission, rewardAddr := c.reward,
    daoAddr := daoAddress, devAddr := devAddress, height := hpay, calcReward := s.reward, safeReward := s.safeReward,
    period := period, totalAccum := tA, totalStakes := tS, stakes := pstakesOf s c }

structure PayoutOf where
  val : Validator
  cand : Candidate
  out : PayOut

/-- The payouts of all validators that still have a candidate under their public key (`GetCandidate(pubkey) == nil` ⇒ skipped);
    `totalAccumRewards` and `totalStakes` are taken over ALL validators before the loop. -/
def payoutsOf (s : State) (hpay : Nat) (period : Int) : List PayoutOf :=
  let tA := totalAccum s
  let tS := if tA > 0 then 0 else sumBy (fun v => v.totalBip) s.validators
  s.validators.filterMap (fun v =>
    match findFirst (fun c => c.pubkey == v.pubkey) s.candidates with
    | none => none
    | some c => some { val := v, cand := c, out := payout (payInOf s hpay period tA tS v c) })

/-- One validator: every payment becomes a pending update (base coin, bip value = value) on the validator's candidate,
    the accumulated reward is reset, the remainder goes to the slashed total. -/
def payPlanOne (x : PayoutOf) : List Prim :=
  x.out.payments.map (fun p => Prim.pushUpdate x.cand.id { owner := p.addr, coin := 0, value := p.amount, bip := p.amount })
    ++ [.addAccum x.val.pubkey (- x.val.accum), .addSlashed x.out.remainder]

def moreOf (xs : List PayoutOf) : Int := sumBy (fun x => x.out.more) xs
def lostOf (xs : List PayoutOf) : Int := sumBy (fun x => x.out.lost) xs

/-- All validators, then `SetEmission(Emission() + moreRewards)`. -/
def payPlan (xs : List PayoutOf) : List Prim := xs.flatMap payPlanOne ++ [.addEmission (moreOf xs)]

/-! ## 6. Emission -/

/-- `SetEmission(Emission() + rewardForBlock)` and the withheld part for the zero address (`diff.Sign() == 1`). -/
def emitPlan (emission0 : Int) (e : Rules.Emit) : List Prim :=
  .addEmission (e.emission - emission0) :: (if 0 < e.toZero then [.addBal 0 0 e.toZero] else [])

/-! ## 7. Tallies -/

def endTallyStep (s : State) (req : EndReq) : State :=
  { s with
    commission := req.newCommission.getD s.commission
    versions := match req.newVersion with
      | none => s.versions
      | some v => (if s.versions == "" then "" else s.versions ++ ",") ++ s!"{v}@{req.height}"
    cvotes := s.cvotes.filter (fun e => e.1.1 != req.height)
    uvotes := s.uvotes.filter (fun e => e.1.1 != req.height) }

/-! ## 8. `updateValidators` -/

/-- The 1000 slots of a candidate as the state lists them. -/
def toSlots (stakes : List Stake) : Slots := stakes.map some ++ List.replicate (maxDelegators - stakes.length) none

def rebip (bipOf : Coin → Int → Int) (slots : Slots) : Slots :=
  slots.map (fun o => o.map (fun s => { s with bip := bipOf s.coin s.value }))

/-- Updates that found no stake to merge into and have a value ≤ 0: `getFilteredUpdates` skips them. -/
def droppedUpdates (bipOf : Coin → Int → Int) (slots : Slots) (updates : List Stake) : List Stake :=
  (mergeExisting bipOf (rebip bipOf slots) updates).2.filter (fun u => !decide (u.value > 0))

structure CandRecalc where
  cand : Candidate
  kicked : List Stake
  dropped : List Stake

/-- `recalculateStakes` for one candidate of the state. -/
def recalcCand (bipOf : Coin → Int → Int) (cd : Candidate) : CandRecalc :=
  let r := recalcCandidate bipOf (toSlots cd.stakes) cd.updates
  { cand := { cd with stakes := r.1.filterMap id, updates := [], totalBip := r.2.2 },
    kicked := r.2.1,
    dropped := droppedUpdates bipOf (toSlots cd.stakes) cd.updates }

def kickEntry (cd : Candidate) (k : Stake) : WaitEntry := { cand := cd.id, owner := k.owner, coin := k.coin, value := k.value }

structure ValUpdate where
  state : State
  kicked : List WaitEntry
  pruned : List Candidate
  dropped : List Stake
  goneNonPos : Int
  carry : Int

/-- Validators of `old` that are not in the new set. -/
def goneValidators (old : List Validator) (sel : List Candidate) : List Validator :=
  old.filter (fun v => !(sel.any (fun c => c.pubkey == v.pubkey)))

/-- `recalculateStakes`: every candidate recalculated. -/
def recalcedCands (bipOf : Coin → Int → Int) (cands : List Candidate) : List Candidate :=
  cands.map (fun cd => (recalcCand bipOf cd).cand)

/-- The waitlist entries of the kicked stakes, candidates in `getOrderedCandidates` order (the order of the kick events). -/
def kickedEntries (bipOf : Coin → Int → Int) (cands : List Candidate) : List WaitEntry :=
  (sortStable candLess cands).flatMap (fun cd => (recalcCand bipOf cd).kicked.map (kickEntry cd))

def droppedAll (bipOf : Coin → Int → Int) (cands : List Candidate) : List Stake :=
  cands.flatMap (fun cd => (recalcCand bipOf cd).dropped)

/-- `RecalculateStakesV2`: ranked beyond 100 in the `LessID` order and not a validator (`DeleteCandidate` returns early for those). -/
def isGone (vals : List Validator) (cands1 : List Candidate) (c : Candidate) : Bool :=
  (prunedCandidates candidatesLimit (fun pk => vals.any (fun v => v.pubkey == pk)) cands1).any (fun d => d.id == c.id)

/-- The deleted candidates in the order of deletion. -/
def removedCands (vals : List Validator) (cands1 : List Candidate) : List Candidate :=
  sortStable candLessID (cands1.filter (isGone vals cands1))

def keptCands (vals : List Validator) (cands1 : List Candidate) : List Candidate :=
  cands1.filter (fun c => !isGone vals cands1 c)

/-- `updateValidators()` at `height`. -/
def valUpdateStep (P : Params) (bipOf : Coin → Int → Int) (height : Nat) (s : State) : ValUpdate :=
  let cands1 := recalcedCands bipOf s.candidates
  let kicked := kickedEntries bipOf s.candidates
  let removed := removedCands s.validators cands1
  let kept := keptCands s.validators cands1
  -- GetNewCandidates + SetNewValidators
  let sel := selectValidators validatorsLimit minValidatorBipStake kept
  let nv := setNewValidators s.validators sel
  let gone := goneValidators s.validators sel
  { state := { s with
      candidates := kept
      waitlist := s.waitlist ++ kicked
      frozen := s.frozen ++ removed.flatMap (unbondAll (height + P.unbond))
      deleted := s.deleted ++ removed.map (fun c => (c.id, c.pubkey))
      blocklist := removed.foldl (fun bl c => c.pubkey :: bl) s.blocklist
      validators := nv.1
      slashed := s.slashed + nv.2
      totalStakes := sumBy (fun c => c.totalBip) kept },
    kicked := kicked, pruned := removed, dropped := droppedAll bipOf s.candidates,
    goneNonPos := sumBy (fun v => if v.accum > 0 then 0 else v.accum) gone,
    carry := sumBy (fun v => v.accum) s.validators - sumBy (fun v => v.accum) nv.1 - sumBy (fun v => v.accum) gone }

/-! ## EndBlock -/

def endBlock (P : Params) (s : State) (req : EndReq) : M (State × EndOut) :=
  if P.period = 0 then .error (.panic "integer divide by zero") else
  let e := Rules.blockEmission s.emission req.cap s.reward s.safeReward
  let belowCap := decide (s.emission < req.cap)
  let dropped := hasDropped s
  -- 1–3
  let s1 := accrueStep s req.signed e
  -- 4
  let expired := if expireDue P req.height then expiredOrders s1 (req.height - P.expire) else []
  match applyPlan s1 (expirePlan expired) with
  | .error err => .error err
  | .ok s2 =>
    -- 5
    let pays := if req.height % P.period == 0 then payoutsOf s2 (if belowCap then req.height else maxUint64) P.period else []
    if pays.any (fun x => decide (x.out.remainder < 0)) then .error (.panic "Negative remainder") else
    match applyPlan s2 (if req.height % P.period == 0 then payPlan pays else []) with
    | .error err => .error err
    | .ok s3 =>
      -- 6
      match applyPlan s3 (if belowCap then emitPlan s.emission e else []) with
      | .error err => .error err
      | .ok s4 =>
        -- 7
        let s5 := endTallyStep s4 req
        -- 8
        let upd := req.height % P.period == 0 || dropped || req.changedKeys
        let base : EndDefect := { overMint := e.toValidators + e.toZero - (e.emission - s.emission), lost := lostOf pays }
        if upd then
          let u := valUpdateStep P req.bipOf req.height s5
          .ok (u.state,
               { emit := e, expired := expired, payouts := pays.map (fun x => (x.val.pubkey, x.out)), more := moreOf pays,
                 updatedSet := true, kicked := u.kicked, pruned := u.pruned,
                 defect := { base with dropped := u.dropped, goneNonPos := u.goneNonPos, carry := u.carry } })
        else
          .ok (s5, { emit := e, expired := expired, payouts := pays.map (fun x => (x.val.pubkey, x.out)), more := moreOf pays,
                     defect := base })

/-! ## A block -/

structure BlockReq where
  beginReq : BeginReq := {}
  grace : Bool := false            -- `grace.IsGraceBlock(height)`
  txs : List TxIn := []
  endReq : EndReq := {}

/-- The deliveries of a block, each outcome applied with `applyChecked`. -/
def deliverTxs (P : Params) (o : Oracle) (block : Nat) : State → List TxIn → M State
  | s, [] => .ok s
  | s, t :: ts =>
    match deliverTx P o s block t with
    | .error e => .error e
    | .ok out =>
      match applyChecked s out.plan with
      | none => .error (.unmodelled "deliverTx: side condition of a ledger primitive failed")
      | some s' => deliverTxs P o block s' ts

/-- BeginBlock ; deliveries ; EndBlock.  The second component is what EndBlock reports (incl. its `EndDefect`). -/
def blockRun (P : Params) (o : Oracle) (s : State) (b : BlockReq) : M (State × EndOut) :=
  match beginBlock P o s b.beginReq b.grace with
  | .error e => .error e
  | .ok (sB, _) =>
    match deliverTxs P o b.beginReq.height sB b.txs with
    | .error e => .error e
    | .ok sD => endBlock P sD b.endReq

def blockStep (P : Params) (o : Oracle) (s : State) (b : BlockReq) : M State :=
  match blockRun P o s b with
  | .error e => .error e
  | .ok r => .ok r.1

/-- Any number of blocks; the defects of the EndBlocks in order. -/
def runBlocks (P : Params) (o : Oracle) : State → List BlockReq → M (State × List EndDefect)
  | s, [] => .ok (s, [])
  | s, b :: bs =>
    match blockRun P o s b with
    | .error e => .error e
    | .ok (s1, out) =>
      match runBlocks P o s1 bs with
      | .error e => .error e
      | .ok (s2, ds) => .ok (s2, out.defect :: ds)

/-! ## Comparison with the node (driver: `S end`) -/

/-- `calculateBipValue` as far as the node's state after EndBlock shows it: exact for the base coin; for another coin the bip
    value the node recorded for a stake of the same coin and value (0 when it recorded none). -/
def bipOfObserved (new : State) : Coin → Int → Int := fun c v =>
  if c = 0 then v else
  match findFirst (fun st => st.coin == c && st.value == v) (new.candidates.flatMap (·.stakes)) with
  | some st => st.bip
  | none => 0

/-- Only base-coin stakes and updates: then `bipOf` is the identity and the whole EndBlock model is comparable. -/
def allBaseStakes (s : State) : Bool :=
  s.candidates.all (fun c => c.stakes.all (·.coin == 0) && c.updates.all (·.coin == 0))

def fmtOrder (o : Order) : String := s!"{o.id}/{o.c0}/{o.c1}/{o.isSale}/{o.v0}/{o.v1}/{o.owner}/{o.height}"
/-- The dump lists the waitlist by key, the model in insertion order: compare them sorted. -/
def normWait (l : List WaitEntry) : List WaitEntry :=
  sortBy (fun a b => a.cand < b.cand || (a.cand == b.cand && (a.owner < b.owner || (a.owner == b.owner &&
    (a.coin < b.coin || (a.coin == b.coin && a.value < b.value)))))) l

/-- The node's view keeps slot positions and zero-valued stakes in memory that the committed export (which the driver's view is
    rebuilt from) drops; positions only matter for ties of C17: compare the stakes of a candidate sorted, without empty ones. -/
def normStakes (l : List Stake) : List Stake :=
  sortBy (fun a b => a.owner < b.owner || (a.owner == b.owner && a.coin < b.coin)) (l.filter (fun st => st.value != 0))

/-- `sortFrozen`: the order of the frozen funds of one height is compared only in `exact` runs (the deletion order of pruned
    candidates follows their recalculated totals, which for custom coins are only known for the candidates that stay). -/
def normForEnd (sortFrozen : Bool) (s : State) : State :=
  { s with candidates := s.candidates.map (fun c => { c with stakes := normStakes c.stakes }),
           waitlist := normWait (s.waitlist.filter (fun w => w.value != 0)),
           frozen := if sortFrozen then
               sortBy (fun a b => a.height < b.height || (a.height == b.height && (a.candId < b.candId || (a.candId == b.candId &&
                 (a.addr < b.addr || (a.addr == b.addr && (a.coin < b.coin || (a.coin == b.coin && a.value < b.value)))))))) s.frozen
             else s.frozen }

def fmtWait (w : WaitEntry) : String := s!"{w.cand}/{w.owner}/{w.coin}/{w.value}"

/-- Result of `endCompare`: the messages, the emission counter the model predicts for the commit of this block (the node's
    live view shows the counter only at the commit), and whether the full comparison ran. -/
structure EndCmp where
  msgs : List String
  emission : Int
  full : Bool

/-- Differences between the model's EndBlock on `old` and the node's state `new` after EndBlock, as
    `MISMATCH C01 end h=… …`; a non-zero defect of the model's run is a `VIOL C01 end-defect …` (the node did the same).
    When the block recalculates stakes of custom coins, `bipOf` is read off the node's state after the block
    (`bipOfObserved`; `full = false` in the result): all movements of value are still compared. -/
def endCompare (P : Params) (old new : State) (req : EndReq) : M EndCmp :=
  let full := allBaseStakes old
  let req := if full then { req with bipOf := fun _ v => v } else { req with bipOf := bipOfObserved new }
  match endBlock P old req with
  | .error e => .error e
  | .ok (m, out) =>
    let retag (d : String) : String :=
      match d.splitOn " " with
      | _ :: rest => s!"MISMATCH C01 end h={req.height} {" ".intercalate rest}"
      | [] => s!"MISMATCH C01 end h={req.height}"
    let light : List String :=
      (beginZipDiff fmtOrder "order" 0 m.orders new.orders).map (fun d => s!"MISMATCH C01 end h={req.height} {d}")
      ++ (let keys := ((m.balances.map (·.1)) ++ (new.balances.map (·.1))).eraseDups
          keys.filterMap (fun k =>
            let a := Bag.get m.balances k; let b := Bag.get new.balances k
            if a != b then some s!"MISMATCH C01 end h={req.height} balance addr={k.1} coin={k.2} model={a} go={b}" else none))
    -- without a recalculation `bipOf` is not used at all; with one, custom-coin bip values are the node's own (`bipOfObserved`):
    -- every movement of value is compared, the bip values of custom coins themselves are not (they are C17's floating-point oracle)
    let exact := full || !out.updatedSet
    let heavy : List String :=
        ((beginDiff true (normForEnd (!exact) m) (normForEnd (!exact) new)).filter (fun d => (d.splitOn " ").getD 1 "" != "balance")).map retag
        ++ (beginZipDiff fmtWait "waitlist" 0 (normForEnd false m).waitlist (normForEnd false new).waitlist).map
            (fun d => s!"MISMATCH C01 end h={req.height} {d}")
    let d := out.defect
    let viol : List String :=
      if d.isZero then [] else
        [s!"VIOL C01 end-defect h={req.height} overMint={d.overMint} lost={d.lost} dropped={d.dropped.map (·.value)} goneNonPos={d.goneNonPos} carry={d.carry}"]
    .ok { msgs := light ++ heavy ++ viol, emission := m.emission, full := exact }

end Minter
