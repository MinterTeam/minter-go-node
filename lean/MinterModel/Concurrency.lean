/-
  C25 — op-level model of "queries interleaved with block execution".
  A node is a state machine `step : σ → Op → σ × Out`. Some ops are *queries* (read-only API calls served from the
  current state). The model cannot exhibit sub-operation interleavings of the Go runtime (unsynchronised map access, lock
  ordering, lazy cache fills from reader goroutines): those are exercised by the concurrent-query mode of the harness
  (race-detector build, API-client goroutines calling the gRPC handlers of `api/v2/service` while blocks execute).
-/
namespace Minter

structure Machine (σ Op Out : Type) where
  step : σ → Op → σ × Out
  isQuery : Op → Bool
  /-- what "read-only" means: a query op returns the state it was given -/
  query_pure : ∀ s op, isQuery op = true → (step s op).1 = s

namespace Machine
variable {σ Op Out : Type}

/-- Run a list of ops; collect the outputs of the non-query ops (responses, app hashes) and the final state. -/
def run (M : Machine σ Op Out) (s : σ) : List Op → σ × List Out
  | [] => (s, [])
  | op :: rest =>
    let r := M.step s op
    let t := run M r.1 rest
    if M.isQuery op then t else (t.1, r.2 :: t.2)

/-- The same history with every query removed. -/
def strip (M : Machine σ Op Out) (ops : List Op) : List Op := ops.filter (fun op => !M.isQuery op)

end Machine
end Minter
