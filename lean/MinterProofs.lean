import MinterProofs.Ledger
import MinterProofs.Moves
import MinterProofs.Props.C01
import MinterProofs.Props.C04
import MinterProofs.Props.C05
import MinterProofs.Props.C13
import MinterProofs.TxLemmas
import MinterProofs.PoolMono
import MinterProofs.Props.C02
import MinterProofs.Props.C06
import MinterProofs.Props.C15
import MinterProofs.Props.C21
import MinterProofs.Props.C22
import MinterProofs.Genesis
import MinterProofs.Props.C11
import MinterProofs.Props.C26
import MinterProofs.Props.C08
import MinterProofs.Rlp
import MinterProofs.RlpTyped
import MinterProofs.RlpSamples
import MinterProofs.Props.C23
import MinterProofs.Bancor
import MinterProofs.Props.C12
import MinterProofs.Events
import MinterProofs.EventsCommit
import MinterProofs.Props.C24
import MinterProofs.Props.C24Bound
import MinterProofs.Persist.Basic
import MinterProofs.Persist.Commit
import MinterProofs.Persist.Restart
import MinterProofs.Persist.Crash
import MinterProofs.Props.C09
import MinterProofs.Props.C10
import MinterProofs.Props.C29
import MinterProofs.Begin
import MinterProofs.Props.C16
import MinterProofs.Props.C18
import MinterProofs.Props.C20
import MinterProofs.Props.C27
import MinterProofs.Props.C28
import MinterProofs.OrdersLemmas
import MinterProofs.FloatLemmas
import MinterProofs.Props.C13Orders
import MinterProofs.Props.C14
import MinterProofs.Validators
import MinterProofs.Slots
import MinterProofs.Props.C17
import MinterProofs.Props.C19
import MinterProofs.Props.C25
import MinterProofs.Props.C07
import MinterProofs.BlockPlans
import MinterProofs.BlockBegin
import MinterProofs.BlockRecalc
import MinterProofs.Props.C01Block
import MinterProofs.Props.C07Tx
import MinterProofs.AmountsCore
import MinterProofs.AmountsFee
import MinterProofs.AmountsFail
import MinterProofs.AmountsTypes
import MinterProofs.AmountsMoves
import MinterProofs.AmountsValue
import MinterProofs.AmountsValue2
import MinterProofs.AmountsStake
import MinterProofs.AmountsOrders
import MinterProofs.AmountsBancor
import MinterProofs.AmountsPool
import MinterProofs.AmountsBegin
import MinterProofs.AmountsRoute
import MinterProofs.AmountsRouteBuy
import MinterProofs.AmountsRouteIds
import MinterProofs.Props.C02More
